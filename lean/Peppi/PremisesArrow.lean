import Peppi.Extracted
/-! `structArrowOK` (`data_type`, `into_struct_array`, `from_struct_array`) on the extracted views; the Boolean is `hasValidity`. -/
namespace Peppi
open Extracted

theorem arrow_End : structArrowOK true End.views = true := by decide +kernel
theorem arrow_Item : structArrowOK true Item.views = true := by decide +kernel
theorem arrow_ItemMisc : structArrowOK false ItemMisc.views = true := by decide +kernel
theorem arrow_Position : structArrowOK true Position.views = true := by decide +kernel
theorem arrow_Post : structArrowOK true Post.views = true := by decide +kernel
theorem arrow_Pre : structArrowOK true Pre.views = true := by decide +kernel
theorem arrow_Start : structArrowOK true Start.views = true := by decide +kernel
theorem arrow_StateFlags : structArrowOK false StateFlags.views = true := by decide +kernel
theorem arrow_TriggersPhysical : structArrowOK true TriggersPhysical.views = true := by decide +kernel
theorem arrow_Velocities : structArrowOK true Velocities.views = true := by decide +kernel
theorem arrow_Velocity : structArrowOK true Velocity.views = true := by decide +kernel

end Peppi
