import Peppi.Prog
import Peppi.Read
import Peppi.Lemmas.Fuel
import Peppi.Lemmas.Tail
/-! **The reader model is a program of exact reads.**  Every stream-facing function of the reader model is re-expressed in the
    syntax `Prog` and shown to denote — over a flat byte string — exactly the `Rd` function the file-level theorems are about
    (`run_*`, ending in `run_readProg`).  With `Prog.frag` this lifts what is proved of `readP` / `readSlp` to every short-read
    behaviour of the source (`ReadStream.lean`; C11, C12). -/
namespace Peppi
open Extracted

namespace Prog

theorem run_ite {α} (c : Prop) [Decidable c] (a b : Prog α) : (if c then a else b).run = if c then a.run else b.run :=
  apply_ite run c a b

/-- the proofs below walk down a `do` block with it wherever a `match` keeps `simp` from pushing `run` inside -/
theorem run_bind_congr {α β} {p : Prog α} {q : Rd α} {f : α → Prog β} {g : α → Rd β} (hp : p.run = q)
    (hf : ∀ a, (f a).run = g a) : (p >>= f).run = q >>= g := by
  rw [run_bind, hp, funext hf]

/-- `byteCase` (Lemmas/UbjLocal.lean): the dispatch on the next byte in which `toVal_succ`, `readMapLoop_succ` and `toUtf8_eq`
    are stated -/
theorem run_byte_bind {α} (g : UInt8 → Rd α) : (byte.run >>= g) = byteCase g := by
  funext bs
  cases bs with
  | nil => rfl
  | cons b t => simp [byte, Bind.bind, run, byteCase]

theorem u8_bind_eq_byteCase {α} (g : Nat → Rd α) : (Rd.u8 >>= g) = byteCase fun b => g b.toNat := by
  funext bs
  cases bs <;> rfl

def expectBytesP (expected : Bytes) : Prog Unit := do
  let actual ← take expected.length done
  if actual = expected then pure () else fail "expected bytes"

@[simp] theorem run_expectBytesP (e : Bytes) : (expectBytesP e).run = expectBytes e := by
  simp only [expectBytesP, expectBytes, run_bind, run_ite, run_take, run_fail, run_pure]

def parsePayloadsP : Prog (Nat × List (Nat × Nat)) := do
  let code ← u8
  if code ≠ EV_PAYLOADS then fail "expected event payloads" else
  let size ← u8
  if size % 3 ≠ 1 then fail "invalid payload size" else
  let buf ← take (size - 1) done
  let sizes ← lift (payloadTriples buf [])
  if (sizeOfEv sizes EV_GAME_START).isNone then fail "missing Game Start in payload sizes" else
  if (sizeOfEv sizes EV_GAME_END).isNone then fail "missing Game End in payload sizes" else
  pure (1 + size, sizes)

@[simp] theorem run_parsePayloadsP : parsePayloadsP.run = parsePayloads := by
  simp only [parsePayloadsP, parsePayloads, run_bind, run_ite, run_u8, run_take, run_lift, run_fail, run_pure]

def parseGameStartP (T : TextOracle) (sizes : List (Nat × Nat)) (bytesRead : Nat) : Prog (Nat × Start) := do
  let code ← u8
  match sizeOfEv sizes code with
  | none => fail "unknown event"
  | some size =>
    let buf ← take size done
    if code = EV_GAME_START then do
      let s ← lift (gameStart T buf)
      pure (bytesRead + size + 1, s)
    else fail "Invalid event before start"

@[simp] theorem run_parseGameStartP (T : TextOracle) (sizes : List (Nat × Nat)) (br : Nat) :
    (parseGameStartP T sizes br).run = parseGameStart T sizes br := by
  refine run_bind_congr run_u8 fun code => ?_
  cases sizeOfEv sizes code with
  | none => rfl
  | some size => simp only [run_bind, run_ite, run_take, run_lift, run_fail, run_pure]

def parseHeaderP : Prog Nat := do
  expectBytesP FILE_SIGNATURE
  be 4

@[simp] theorem run_parseHeaderP : parseHeaderP.run = parseHeader := by
  simp only [parseHeaderP, parseHeader, run_bind, run_expectBytesP, run_be]

def parseStartP (T : TextOracle) : Prog ParseState := do
  let (br, sizes) ← parsePayloadsP
  let (br, start) ← parseGameStartP T sizes br
  let ports := portOccupancy start
  let portIdx := (List.range 4).map fun p => (ports.findIdx? (·.port == p))
  pure { st := { sizes, splitRaw := [], splitActual := 0, portIdx, start, fend := none,
                 frames := FCols.new start.version ports, metadata := none, gecko := none, doubleGameEnd := none },
         bytesRead := br }

@[simp] theorem run_parseStartP (T : TextOracle) : (parseStartP T).run = parseStart T := by
  simp only [parseStartP, parseStart, run_bind, run_parsePayloadsP, run_parseGameStartP, run_pure]

def parseEventP (ps : ParseState) : Prog (Nat × ParseState) := do
  let st := ps.st
  let code ← u8
  match sizeOfEv st.sizes code with
  | none => fail "unknown event"
  | some size =>
    let buf ← take size done
    let (code', buf', st) ← (if code = EV_SPLITTER then do
        let (w, st') ← lift (handleSplitter buf st)
        match w with
        | some wrapped => pure (wrapped, st'.splitRaw, { st' with splitRaw := [] })
        | none => pure (code, buf, st')
      else pure (code, buf, st) : Prog (Nat × Bytes × PState))
    let st ← lift (handleEvent st code' buf')
    pure (code', { st, bytesRead := ps.bytesRead + size + 1 })

@[simp] theorem run_parseEventP (ps : ParseState) : (parseEventP ps).run = parseEvent ps := by
  refine run_bind_congr run_u8 fun code => ?_
  cases sizeOfEv ps.st.sizes code with
  | none => rfl
  | some size =>
    refine run_bind_congr (run_take size) fun buf => ?_
    refine run_bind_congr ?_ fun x => by simp only [run_bind, run_lift, run_pure]
    split
    · refine run_bind_congr (run_lift _) fun wst => ?_
      obtain ⟨w, st'⟩ := wst
      cases w <;> rfl
    · rfl

section Ubj
variable (utf8 : Bytes → Bool)

def toUtf8P : Prog Bytes := do
  let len ← u8
  let s ← take len done
  if utf8 s then pure s else fail "utf8"

@[simp] theorem run_toUtf8P : (toUtf8P utf8).run = toUtf8 utf8 := by
  simp only [toUtf8P, toUtf8_eq, run_bind, run_u8, run_take, run_ite, run_pure, run_fail, u8_bind_eq_byteCase]

mutual
  def toValP : Nat → Nat → Prog Tree
    | 0, _ => fail "fuel"
    | fuel+1, depth => do
      let t ← byte
      if t = 0x53 then do
        let u ← byte
        if u = 0x55 then do let s ← toUtf8P utf8; pure (.str s) else fail "expected 0x55"
      else if t = 0x6c then do let n ← take 4 done; pure (.int (toI32 (fromBE n)))
      else if t = 0x7b then do let m ← readMapLoopP fuel (depth + 1) .nil; pure (.map m)
      else fail "unexpected value type"
  def readMapLoopP : Nat → Nat → KVs → Prog KVs
    | 0, _, _ => fail "fuel"
    | fuel+1, depth, acc =>
      if depth > MAX_DEPTH then fail "too deep" else do
      let t ← byte
      if t = 0x7d then pure acc
      else if t = 0x55 then do
        let k ← toUtf8P utf8
        let v ← toValP fuel depth
        readMapLoopP fuel depth (acc.insert k v)
      else fail "unexpected key type"
end

theorem run_ubjP : ∀ fuel : Nat,
    (∀ depth, (toValP utf8 fuel depth).run = toVal utf8 fuel depth) ∧
    (∀ depth acc, (readMapLoopP utf8 fuel depth acc).run = fun bs => readMapLoop utf8 fuel depth bs acc) := by
  intro fuel
  induction fuel with
  | zero => exact ⟨fun d => rfl, fun d acc => rfl⟩
  | succ n ih =>
    obtain ⟨ihv, ihm⟩ := ih
    refine ⟨fun d => ?_, fun d acc => ?_⟩
    · rw [toVal_succ]
      simp only [toValP, run_bind, run_byte_bind, run_ite, run_take, run_pure, run_fail, run_toUtf8P, ihm]
    · rw [readMapLoop_succ]
      simp only [readMapLoopP, run_bind, run_byte_bind, run_ite, run_pure, run_fail, run_toUtf8P, ihm, ihv]

end Ubj

/-- every program only ever moves forward: what it leaves is no longer than its input -/
theorem run_shrinks {α} (p : Prog α) : ∀ bs a rest, p.run bs = .ok (a, rest) → rest.length ≤ bs.length := by
  induction p with
  | done a =>
    intro bs a' rest h
    obtain ⟨-, rfl⟩ := Prod.mk.inj (Res.ok.inj h)
    exact Nat.le_refl _
  | fail e => intro bs a rest h; cases h
  | panic x => intro bs a rest h; cases h
  | take n k ih =>
    intro bs a rest h
    rw [run] at h
    split at h
    · cases h
    · have hk := ih _ _ _ _ h
      rw [List.length_drop] at hk
      omega
  | skip n k ih =>
    intro bs a rest h
    have hk := ih (bs.drop n) a rest h
    rw [List.length_drop] at hk
    omega

/-- running a sequence: the continuation only matters on remainders no longer than the input; so the fuel bound passes
    through `readProg`.  `2 * length + 2` is what `readMap` gives itself (Ubjson.lean); the loops need `length < fuel`
    (`ubj_fuel`, `eventLoop_fuel`), which is what each `omega` below derives. -/
theorem run_bind_le {α β} {p : Prog α} {q : Rd α} {f : α → Prog β} {g : α → Rd β} (hp : p.run = q) (bs : Bytes)
    (h : ∀ a rest, rest.length ≤ bs.length → (f a).run rest = g a rest) : (p >>= f).run bs = (q >>= g) bs := by
  rw [run_bind, hp]
  exact Rd.bind_congr fun a rest hr => h a rest (run_shrinks p bs a rest (hp ▸ hr))

def parseMetadataP (utf8 : Bytes → Bool) (fuel : Nat) (st : PState) : Prog PState := do
  expectBytesP METADATA_KEY
  let m ← readMapLoopP utf8 fuel 1 .nil
  pure { st with metadata := some m }

theorem run_parseMetadataP (utf8 : Bytes → Bool) (fuel : Nat) (st : PState) (bs : Bytes) (hf : 2 * bs.length + 2 ≤ fuel) :
    (parseMetadataP utf8 fuel st).run bs = parseMetadata utf8 st bs := by
  refine run_bind_le (run_expectBytesP _) bs fun _ r hr => ?_
  simp only [run_bind, (run_ubjP utf8 fuel).2, run_pure]
  exact Rd.bind_congr_left _ ((ubj_fuel utf8 fuel).2 _ 1 r .nil (by omega) (by omega))

def eventLoopP : Nat → Nat → ParseState → Prog ParseState
  | 0, _, _ => fail "fuel"
  | fuel+1, rawLen, ps =>
    if rawLen = 0 ∨ ps.bytesRead < rawLen then do
      let (code, ps') ← parseEventP ps
      if code = EV_GAME_END then pure ps' else eventLoopP fuel rawLen ps'
    else pure ps

theorem run_eventLoopP : ∀ (fuel rawLen : Nat) (ps : ParseState),
    (eventLoopP fuel rawLen ps).run = fun bs => eventLoop fuel rawLen ps bs := by
  intro fuel
  induction fuel with
  | zero => intro rawLen ps; rfl
  | succ n ih =>
    intro rawLen ps
    refine Eq.trans ?_ (evL_succ n rawLen ps).symm
    simp only [eventLoopP, run_ite, run_bind, run_parseEventP, run_pure, ih]
    rfl

/-- first half of the tail: close the dangling frame below 3.0, swallow what is left of the raw element -/
def tailExtraP (rawLen : Nat) (ps : ParseState) : Prog PState := do
  let st := if ps.st.start.version.lt 3 0 then { ps.st with frames := ps.st.frames.close } else ps.st
  if ps.bytesRead < rawLen then do
      let len := rawLen - ps.bytesRead
      let buf ← take len done
      if len = 1 + endSize st.start.version ∧ buf.head? = some 0x39 then pure { st with doubleGameEnd := some true } else pure st
    else pure st

/-- second half: metadata element or closing brace -/
def tailMetaP (T : TextOracle) (fuel : Nat) (st : PState) : Prog Game := do
  let b ← u8
  let st ← (if b = 0x55 then do
      let st ← parseMetadataP T.utf8Ok fuel st
      expectBytesP [0x7d]
      pure st
    else if b = 0x7d then pure st
    else fail "expected: 0x55 or 0x7d")
  pure { start := st.start, fend := st.fend, frames := st.frames, metadata := st.metadata, gecko := st.gecko,
         hashedLen := none, doubleGameEnd := st.doubleGameEnd }

def readTailP (T : TextOracle) (fuel rawLen : Nat) (ps : ParseState) : Prog Game := do
  let st ← tailExtraP rawLen ps
  tailMetaP T fuel st

@[simp] theorem run_tailExtraP (rawLen : Nat) (ps : ParseState) : (tailExtraP rawLen ps).run = tailExtra rawLen ps := by
  simp only [tailExtraP, tailExtra, run_ite, run_bind, run_take, run_pure]

theorem run_tailMetaP (T : TextOracle) (fuel : Nat) (st : PState) (bs : Bytes) (hf : 2 * bs.length + 2 ≤ fuel) :
    (tailMetaP T fuel st).run bs = tailMeta T st bs := by
  refine run_bind_le run_u8 bs fun b r hr => ?_
  simp only [run_bind, run_pure, run_ite, run_fail, run_expectBytesP]
  split
  · exact Rd.bind_congr_left _ (Rd.bind_congr_left _ (run_parseMetadataP T.utf8Ok fuel st r (by omega)))
  · rfl

theorem run_readTailP (T : TextOracle) (fuel rawLen : Nat) (ps : ParseState) (bs : Bytes) (hf : 2 * bs.length + 2 ≤ fuel) :
    (readTailP T fuel rawLen ps).run bs = readTail T rawLen ps bs :=
  run_bind_le (run_tailExtraP rawLen ps) bs fun st r hr => run_tailMetaP T fuel st r (by omega)

def skipToEndP (rawLen : Nat) (ps : ParseState) : Prog ParseState :=
  let endOffset := 1 + (sizeOfEv ps.st.sizes EV_GAME_END).getD 0
  if rawLen = 0 ∨ rawLen < ps.bytesRead ∨ rawLen - ps.bytesRead < endOffset then fail "Cannot skip to game end"
  else
    let n := rawLen - ps.bytesRead - endOffset
    skip n (done { ps with bytesRead := ps.bytesRead + n })

@[simp] theorem run_skipToEndP (rawLen : Nat) (ps : ParseState) : (skipToEndP rawLen ps).run = skipToEnd rawLen ps := by
  simp only [skipToEndP, skipToEnd, run_ite]
  rfl

/-- `io::slippi::read` as a program of exact reads (`fuel` bounds the two input-driven loops) -/
def readProg (T : TextOracle) (opts : Opts) (fuel : Nat) : Prog Game := do
  let rawLen ← parseHeaderP
  let ps ← parseStartP T
  let ps ← (if opts.skipFrames then skipToEndP rawLen ps else pure ps)
  let ps ← eventLoopP fuel rawLen ps
  readTailP T fuel rawLen ps

/-- **the reader model is this program** -/
theorem run_readProg (T : TextOracle) (opts : Opts) (fuel : Nat) (x : Bytes) (hf : 2 * x.length + 2 ≤ fuel) :
    (readProg T opts fuel).run x = readP T opts x := by
  refine run_bind_le run_parseHeaderP x fun rawLen r1 h1 => ?_
  refine run_bind_le (run_parseStartP T) r1 fun ps r2 h2 => ?_
  refine run_bind_le (by rw [run_ite, run_skipToEndP, run_pure]) r2 fun ps r3 h3 => ?_
  refine (run_bind_le (run_eventLoopP fuel rawLen ps) r3 fun ps r4 h4 => run_readTailP T fuel rawLen ps r4 (by omega)).trans ?_
  exact Rd.bind_congr_left _ (eventLoop_fuel fuel (r3.length + 1) rawLen ps r3 (by omega) (by omega))

#print axioms run_readProg
end Prog
end Peppi
