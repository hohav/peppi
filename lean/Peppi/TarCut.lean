import Peppi.Tar
/-! A *lazy* tar reader — what `tar::Archive::entries()` yields member by member on **any** byte string, including one that
    stops early — and the exact list it yields on every prefix of a written archive.

    `tar` hands the reader each member as soon as its header block has been read; the member's contents are whatever bytes are
    there (a short read at end of input is not an error of the `Entry` reader), and it is the *next* call of the iterator that
    fails when the contents or the padding are incomplete.  End of input exactly at a member boundary ends the iteration
    quietly, as a zero block does.  `tarScan` models that.
    The model is compared with the `tar` crate on prefixes of written archives on every run (driver op `tarscan`). -/
namespace Peppi

inductive TItem where
  | entry (name body : Bytes)
  | broken                       -- the iterator returns `Err` (and `read` gives up)
deriving Repr, DecidableEq

/-- the members the iterator yields, and — when it ended on a zero block — whether a second zero block follows -/
def tarScan : Nat → Bytes → List TItem × Bool
  | 0, _ => ([.broken], false)
  | fuel+1, bs =>
    if bs.length = 0 then ([], false) else
    if bs.length < 512 then ([.broken], false) else
    match hdrInfo (bs.take 512) with
    | .zero => ([], decide (1024 ≤ bs.length) && ((bs.drop 512).take 512).all (· == 0))
    | .bad => ([.broken], false)
    | .ok name size =>
      let body := bs.drop 512
      let r := if body.length < size + padLen size then ([TItem.broken], false)
               else tarScan fuel (body.drop (size + padLen size))
      (.entry name (body.take size) :: r.1, r.2)

/-- what the iterator yields on the first `n` bytes of the archive written for `es` -/
def cutItems : List (Bytes × Bytes) → Nat → List TItem × Bool
  | [], n => if n = 0 then ([], false) else if n < 512 then ([.broken], false) else ([], decide (1024 ≤ n))
  | e :: es, n =>
    if n = 0 then ([], false) else
    if n < 512 then ([.broken], false) else
    if n < (tarEntry e).length then ([.entry e.1 (e.2.take (n - 512)), .broken], false) else
    let r := cutItems es (n - (tarEntry e).length)
    (.entry e.1 e.2 :: r.1, r.2)

theorem tarScan_block (fuel : Nat) (H body : Bytes) (hH : H.length = 512) (name : Bytes) (size : Nat)
    (h : hdrInfo H = .ok name size) :
    tarScan (fuel + 1) (H ++ body) =
      let r := if body.length < size + padLen size then ([TItem.broken], false)
               else tarScan fuel (body.drop (size + padLen size))
      (.entry name (body.take size) :: r.1, r.2) := by
  have hl : ¬ (H ++ body).length < 512 := by rw [List.length_append, hH]; omega
  have h0 : (H ++ body).length ≠ 0 := by omega
  rw [tarScan, if_neg h0, if_neg hl, List.take_left' hH, List.drop_left' hH, h]

theorem tarScan_short (fuel : Nat) (bs : Bytes) (h : bs.length < 512) :
    tarScan (fuel + 1) bs = if bs.length = 0 then ([], false) else ([.broken], false) := by
  rw [tarScan]
  by_cases h0 : bs.length = 0
  · rw [if_pos h0, if_pos h0]
  · rw [if_neg h0, if_pos h, if_neg h0]

theorem tarScan_zeros (fuel k : Nat) : tarScan (fuel + 1) (zeros k) = cutItems [] k := by
  rw [cutItems]
  by_cases h1 : k < 512
  · rw [tarScan_short _ _ (by rw [zeros_length]; exact h1), zeros_length, if_pos h1]
  · have h0 : k ≠ 0 := by omega
    have hz : hdrInfo (zeros (min 512 k)) = .zero := by rw [hdrInfo, if_pos (zeros_all _)]
    rw [tarScan, zeros_length, if_neg h0, if_neg h1, if_neg h0, if_neg h1, zeros_take, hz]
    simp only [zeros_drop, zeros_take, zeros_all, Bool.and_true]

theorem cut_body (data pad rest : Bytes) (m : Nat) :
    ((data ++ pad ++ rest).take m).take data.length = data.take m ∧
    (((data ++ pad ++ rest).take m).length < data.length + pad.length ↔ m < data.length + pad.length) ∧
    ((data ++ pad ++ rest).take m).drop (data.length + pad.length) = rest.take (m - (data.length + pad.length)) := by
  refine ⟨?_, ?_, ?_⟩
  · rw [List.take_take, List.append_assoc, List.take_append_of_le_length (Nat.min_le_left ..), Nat.min_comm,
      ← List.take_eq_take_min]
  · rw [List.length_take, List.length_append, List.length_append]
    omega
  · rw [List.drop_take, List.drop_left' List.length_append]

theorem tarScan_entry (fuel : Nat) (e : Bytes × Bytes) (he : EntryOK e) (rest : Bytes) (n : Nat) :
    tarScan (fuel + 1) ((tarEntry e ++ rest).take n) =
      if n = 0 then ([], false) else
      if n < 512 then ([.broken], false) else
      if n < (tarEntry e).length then ([.entry e.1 (e.2.take (n - 512)), .broken], false) else
      let r := tarScan fuel (rest.take (n - (tarEntry e).length))
      (.entry e.1 e.2 :: r.1, r.2) := by
  have hl := tarHeader_length e.1 e.2.length he.nameLen.2
  have hL := tarEntry_length_eq e he.nameLen.2
  by_cases h1 : n < 512
  · -- the cut falls inside the header
    have hlen : ((tarEntry e ++ rest).take n).length = n :=
      List.length_take_of_le (by rw [List.length_append, hL]; omega)
    rw [tarScan_short _ _ (by rw [hlen]; exact h1), hlen, if_pos h1]
  -- the cut lies behind the header, `m` bytes into contents, padding and rest
  obtain ⟨m, rfl⟩ := Nat.exists_eq_add_of_le (Nat.le_of_not_lt h1)
  obtain ⟨hdata, hin, hrest⟩ := cut_body e.2 (zeros (padLen e.2.length)) rest m
  rw [zeros_length] at hin hrest
  have h0 : 512 + m ≠ 0 := by omega
  have hcut : (tarEntry e ++ rest).take (512 + m) =
      tarHeader e.1 e.2.length ++ (e.2 ++ zeros (padLen e.2.length) ++ rest).take m := by
    rw [tarEntry_append, ← hl, List.take_length_add_append]
  rw [if_neg h0, if_neg h1, hcut, tarScan_block fuel _ _ hl _ _ he.header, hL]
  simp only [hdata, hin, hrest, Nat.add_lt_add_iff_left, Nat.add_sub_add_left, Nat.add_sub_cancel_left]
  by_cases h2 : m < e.2.length + padLen e.2.length
  · rw [if_pos h2, if_pos h2]
  · rw [if_neg h2, if_neg h2, List.take_of_length_le (Nat.le_trans (Nat.le_add_right ..) (Nat.le_of_not_lt h2))]

/-- C07 at tar level: what the iterator yields on a written archive cut anywhere is `cutItems`, a function of the entry list
    and the cut alone -/
theorem tarScan_cut (es : List (Bytes × Bytes)) (hes : ∀ e ∈ es, EntryOK e) (fuel : Nat) (hf : es.length < fuel) (n : Nat) :
    tarScan fuel ((tarArchive es).take n) = cutItems es n := by
  induction es generalizing fuel n with
  | nil =>
    cases fuel with
    | zero => exact absurd hf (Nat.not_lt_zero _)
    | succ f =>
      show tarScan (f + 1) ((zeros 1024).take n) = _
      rw [zeros_take, tarScan_zeros]
      -- a cut behind the end is a cut at the end
      by_cases h : n ≤ 1024
      · rw [Nat.min_eq_left h]
      · obtain ⟨h0, h1, h2⟩ : n ≠ 0 ∧ ¬ n < 512 ∧ 1024 ≤ n := by omega
        have hn : cutItems [] n = ([], true) := by rw [cutItems, if_neg h0, if_neg h1, decide_eq_true h2]
        rw [Nat.min_eq_right h2, hn]
        rfl
  | cons e t ih =>
    cases fuel with
    | zero => exact absurd hf (Nat.not_lt_zero _)
    | succ f =>
      rw [tarArchive_cons, tarScan_entry f e (hes e List.mem_cons_self) (tarArchive t) n, cutItems]
      simp only [ih (fun e' he' => hes e' (List.mem_cons_of_mem e he')) f (Nat.lt_of_succ_lt_succ hf)]

/-- with `tarScan_cut` and `tarRead_archive`: on a complete archive the lazy reader yields what the eager one returns -/
theorem cutItems_full (es : List (Bytes × Bytes)) (hn : ∀ e ∈ es, e.1.length ≤ 100) :
    cutItems es (tarArchive es).length = (es.map fun e => TItem.entry e.1 e.2, true) := by
  induction es with
  | nil => show cutItems [] (zeros 1024).length = _; rw [zeros_length]; rfl
  | cons e t ih =>
    have hL := tarEntry_length_eq e (hn e List.mem_cons_self)
    obtain ⟨a0, a1⟩ : (tarEntry e).length + (tarArchive t).length ≠ 0 ∧ ¬ (tarEntry e).length + (tarArchive t).length < 512 := by
      omega
    have a2 : ¬ (tarEntry e).length + (tarArchive t).length < (tarEntry e).length := Nat.not_lt.mpr (Nat.le_add_right ..)
    rw [cutItems, tarArchive_cons, List.length_append, if_neg a0, if_neg a1, if_neg a2, Nat.add_sub_cancel_left,
      ih fun e' he' => hn e' (List.mem_cons_of_mem e he')]
    rfl

/-- every member consumes at least its header block, so any fuel above `length / 512` is as good as any other -/
theorem tarScan_fuel : ∀ (fuel : Nat) (bs : Bytes), bs.length / 512 < fuel → ∀ fuel', bs.length / 512 < fuel' →
    tarScan fuel bs = tarScan fuel' bs := by
  intro fuel
  induction fuel with
  | zero => intro bs h; exact absurd h (Nat.not_lt_zero _)
  | succ f ih =>
    intro bs h fuel' h'
    cases fuel' with
    | zero => exact absurd h' (Nat.not_lt_zero _)
    | succ f' =>
      by_cases h1 : bs.length < 512
      · rw [tarScan_short f bs h1, tarScan_short f' bs h1]
      have step (k : Nat) : tarScan f ((bs.drop 512).drop k) = tarScan f' ((bs.drop 512).drop k) := by
        have hl : ((bs.drop 512).drop k).length / 512 < bs.length / 512 := by
          rw [List.length_drop, List.length_drop]; omega
        exact ih _ (Nat.lt_of_lt_of_le hl (Nat.le_of_lt_succ h)) f' (Nat.lt_of_lt_of_le hl (Nat.le_of_lt_succ h'))
      rw [tarScan, tarScan]
      simp only [step]

#print axioms tarScan_cut
#print axioms cutItems_full
end Peppi
