import Peppi.Res
/-! The tar framing of `.slpp` (what `tar_append` in `io/peppi/ser.rs` produces through `tar::Header::new_gnu`,
    `set_size`, `set_path`, `set_mode(0o644)`, `set_cksum`, `Builder::append`, and `Builder::into_inner`): a 512-byte GNU header
    per entry, the contents padded with zeros to a multiple of 512, two zero blocks at the end.  And the part of a tar reader
    that a well-formed archive exercises (header checksum, NUL-terminated name, octal size, padding, end-of-archive marker).
    The byte-level model is compared with the `tar` crate on every run (driver ops `tarw` / `tarr`). -/
namespace Peppi

def zeros (n : Nat) : Bytes := List.replicate n 0

theorem zeros_all (n : Nat) : (zeros n).all (· == 0) = true := by
  simp [zeros]

theorem zeros_length (n : Nat) : (zeros n).length = n := List.length_replicate

theorem zeros_take (n k : Nat) : (zeros k).take n = zeros (min n k) := List.take_replicate

theorem zeros_drop (n k : Nat) : (zeros k).drop n = zeros (k - n) := List.drop_replicate

/-- `n` as exactly `k` octal ASCII digits, most significant first -/
def octal : Nat → Nat → Bytes
  | 0, _ => []
  | k+1, n => octal k (n / 8) ++ [UInt8.ofNat (48 + n % 8)]

theorem octal_length (k n : Nat) : (octal k n).length = k := by
  induction k generalizing n with
  | zero => rfl
  | succ k ih => simp [octal, ih]

/-- value of a run of octal ASCII digits (`none` on any other byte) -/
def parseOctal (bs : Bytes) : Option Nat :=
  bs.foldl (fun acc b => match acc with
    | none => none
    | some a => if 48 ≤ b.toNat ∧ b.toNat ≤ 55 then some (a * 8 + (b.toNat - 48)) else none) (some 0)

theorem parseOctal_snoc_digit (pre : Bytes) (a d : Nat) (hp : parseOctal pre = some a) (hd : d < 8) :
    parseOctal (pre ++ [UInt8.ofNat (48 + d)]) = some (a * 8 + d) := by
  have hr : 48 ≤ 48 + d ∧ 48 + d ≤ 55 := by omega
  have hb : (UInt8.ofNat (48 + d)).toNat = 48 + d := UInt8.toNat_ofNat_of_lt' (Nat.lt_of_le_of_lt hr.2 (by decide))
  rw [parseOctal, List.foldl_append, ← parseOctal, hp]
  simp only [List.foldl_cons, List.foldl_nil, hb, hr, and_self, ↓reduceIte, Nat.add_sub_cancel_left]

/-- `a` stands for the accumulator of the fold in `parseOctal` -/
theorem parseOctal_append_octal (pre : Bytes) (a k n : Nat) (hp : parseOctal pre = some a) (h : n < 8 ^ k) :
    parseOctal (pre ++ octal k n) = some (a * 8 ^ k + n) := by
  induction k generalizing n with
  | zero =>
    have hn : n = 0 := by omega
    rw [hn, octal, List.append_nil, hp, Nat.pow_zero, Nat.mul_one, Nat.add_zero]
  | succ k ih =>
    have hq : n / 8 < 8 ^ k := by rw [Nat.pow_succ] at h; omega
    have hv : (a * 8 ^ k + n / 8) * 8 + n % 8 = a * 8 ^ (k + 1) + n := by
      rw [Nat.pow_succ, Nat.add_mul, Nat.mul_assoc]; omega
    rw [octal, ← List.append_assoc, parseOctal_snoc_digit _ _ _ (ih (n / 8) hq) (Nat.mod_lt n (by decide)), hv]

theorem parseOctal_octal (k n : Nat) (h : n < 8 ^ k) : parseOctal (octal k n) = some n := by
  have := parseOctal_append_octal [] 0 k n rfl h
  rwa [List.nil_append, Nat.zero_mul, Nat.zero_add] at this

def bsum (bs : Bytes) : Nat := (bs.map (·.toNat)).sum

/-- the header up to the size field: name (100), mode `0000644\0`, uid and gid (zero bytes) -/
def hdrA (name : Bytes) : Bytes := name ++ (zeros (100 - name.length) ++ ((octal 7 0o644 ++ [0]) ++ zeros 16))

/-- the header up to the checksum field: `hdrA`, size (11 octal digits, NUL), mtime 0 (11 octal digits, NUL) -/
def hdrPre (name : Bytes) (size : Nat) : Bytes :=
  hdrA name ++ ((octal 11 size ++ [0]) ++ (octal 11 0 ++ [0]))

theorem hdrA_length (name : Bytes) (hn : name.length ≤ 100) : (hdrA name).length = 124 := by
  simp only [hdrA, List.length_append, zeros_length, octal_length, List.length_cons, List.length_nil]
  rw [← Nat.add_assoc, Nat.add_sub_cancel' hn]

/-- the header after the checksum field: type flag 0 (regular file), link name, GNU magic `ustar ` and version ` \0`, zeros -/
def hdrPost : Bytes := [0] ++ zeros 100 ++ [0x75, 0x73, 0x74, 0x61, 0x72, 0x20] ++ [0x20, 0] ++ zeros 247

theorem hdrPre_length (name : Bytes) (size : Nat) (hn : name.length ≤ 100) : (hdrPre name size).length = 148 := by
  simp only [hdrPre, List.length_append, hdrA_length name hn, octal_length, List.length_cons, List.length_nil]

theorem hdrPost_length : hdrPost.length = 356 := by
  simp only [hdrPost, List.length_append, zeros_length, List.length_cons, List.length_nil]

/-- checksum: the sum of all header bytes with the checksum field read as eight spaces -/
def hdrCksum (name : Bytes) (size : Nat) : Nat := bsum (hdrPre name size) + 256 + bsum hdrPost

def tarHeader (name : Bytes) (size : Nat) : Bytes :=
  hdrPre name size ++ (octal 7 (hdrCksum name size) ++ [0]) ++ hdrPost

theorem tarHeader_length (name : Bytes) (size : Nat) (hn : name.length ≤ 100) : (tarHeader name size).length = 512 := by
  simp only [tarHeader, List.length_append, hdrPre_length name size hn, hdrPost_length, octal_length, List.length_cons,
    List.length_nil]

def padLen (n : Nat) : Nat := (512 - n % 512) % 512

/-- one archive member -/
def tarEntry (e : Bytes × Bytes) : Bytes := tarHeader e.1 e.2.length ++ e.2 ++ zeros (padLen e.2.length)

/-- `tar::Builder` output for a list of (name, contents) -/
def tarArchive (es : List (Bytes × Bytes)) : Bytes := es.flatMap tarEntry ++ zeros 1024

/-- **C18, signature**: the archive starts with the name of its first entry -/
theorem tarArchive_starts (name data : Bytes) (es : List (Bytes × Bytes)) :
    (tarArchive ((name, data) :: es)).take name.length = name := by
  simp only [tarArchive, List.flatMap_cons, tarEntry, tarHeader, hdrPre, hdrA, List.append_assoc]
  exact List.take_left' rfl

/-! ### reading back -/

/-- the entries the round trip is proved for: a name of 1 to 100 bytes, none of them NUL (the name field has 100 bytes, and
    the reader takes the name up to the first NUL), and contents below `8 ^ 11` bytes = 8 GiB (the size field has 11 octal
    digits) -/
structure EntryOK (e : Bytes × Bytes) : Prop where
  nameLen : 0 < e.1.length ∧ e.1.length ≤ 100
  noNul : ∀ b ∈ e.1, b ≠ 0
  size : e.2.length < 8 ^ 11

inductive Hdr where
  | zero | bad | ok (name : Bytes) (size : Nat)
deriving Repr, DecidableEq

/-- what the reader makes of a 512-byte header block -/
def hdrInfo (h : Bytes) : Hdr :=
  if h.all (· == 0) then .zero else
  if parseOctal ((h.drop 148).take 7) ≠ some (bsum (h.take 148) + 256 + bsum (h.drop 156)) then .bad else
  match parseOctal ((h.drop 124).take 11) with
  | none => .bad
  | some size => .ok ((h.take 100).takeWhile (· != 0)) size

/-- the members of an archive, up to the end-of-archive marker (a zero block), and whether the marker is complete (a second
    zero block follows: what `io/peppi/de.rs` checks before it believes an archive without `frames.arrow`) -/
def tarRead : Nat → Bytes → Res (List (Bytes × Bytes) × Bool)
  | 0, _ => .err "fuel"
  | fuel+1, bs =>
    if bs.length < 512 then .err "truncated header" else
    let h := bs.take 512
    if h.all (· == 0) then .ok ([], decide (1024 ≤ bs.length) && ((bs.drop 512).take 512).all (· == 0)) else
    let pre := h.take 148
    let ck := (h.drop 148).take 7
    let post := h.drop 156
    if parseOctal ck ≠ some (bsum pre + 256 + bsum post) then .err "archive header checksum mismatch" else
    let name := (h.take 100).takeWhile (· != 0)
    match parseOctal ((h.drop 124).take 11) with
    | none => .err "size field"
    | some size =>
      let body := bs.drop 512
      if body.length < size + padLen size then .err "truncated entry" else
      match tarRead fuel (body.drop (size + padLen size)) with
      | .ok (es, t) => .ok ((name, body.take size) :: es, t)
      | .err e => .err e
      | .panic p => .panic p

theorem bsum_le (bs : Bytes) : bsum bs ≤ 255 * bs.length := by
  induction bs with
  | nil => exact Nat.le_refl 0
  | cons b t ih =>
    have hb := b.toNat_lt
    show b.toNat + bsum t ≤ 255 * (t.length + 1)
    omega

theorem hdrCksum_lt (name : Bytes) (size : Nat) (hn : name.length ≤ 100) : hdrCksum name size < 8 ^ 7 := by
  have h1 := bsum_le (hdrPre name size)
  have h2 := bsum_le hdrPost
  rw [hdrPre_length name size hn] at h1
  rw [hdrPost_length] at h2
  simp only [hdrCksum]
  omega

theorem field_at {α} (a b c : List α) {i k : Nat} (ha : a.length = i) (hb : b.length = k) :
    ((a ++ (b ++ c)).drop i).take k = b := by
  rw [List.drop_left' ha, List.take_left' hb]

theorem takeWhile_stop {α} (p : α → Bool) (l r : List α) (hl : ∀ b ∈ l, p b = true) (hr : r.head?.map p ≠ some true) :
    (l ++ r).takeWhile p = l := by
  induction l with
  | nil =>
    cases r with
    | nil => rfl
    | cons x t => exact List.takeWhile_cons_of_neg fun h => hr (congrArg some h)
  | cons a t ih =>
    rw [List.cons_append, List.takeWhile_cons_of_pos (hl a List.mem_cons_self), ih fun b hb => hl b (List.mem_cons_of_mem a hb)]

theorem hdrInfo_eq_ok (H name : Bytes) (size : Nat) : hdrInfo H = .ok name size ↔
    H.all (· == 0) = false ∧ parseOctal ((H.drop 148).take 7) = some (bsum (H.take 148) + 256 + bsum (H.drop 156)) ∧
      (H.take 100).takeWhile (· != 0) = name ∧ parseOctal ((H.drop 124).take 11) = some size := by
  unfold hdrInfo
  cases H.all (· == 0) with
  | true => simp
  | false =>
    by_cases hc : parseOctal ((H.drop 148).take 7) = some (bsum (H.take 148) + 256 + bsum (H.drop 156))
    · cases parseOctal ((H.drop 124).take 11) <;> simp [hc]
    · simp [hc]

theorem hdrInfo_header (name : Bytes) (size : Nat) (hn0 : 0 < name.length) (hn : name.length ≤ 100)
    (hnul : ∀ b ∈ name, b ≠ 0) (hsz : size < 8 ^ 11) : hdrInfo (tarHeader name size) = .ok name size := by
  have hpl := hdrPre_length name size hn
  have hname : (tarHeader name size).take 100 = name ++ zeros (100 - name.length) := by
    rw [tarHeader, hdrPre, hdrA, ← List.append_assoc name, List.append_assoc, List.append_assoc, List.append_assoc]
    exact List.take_left' (by rw [List.length_append, zeros_length, Nat.add_sub_cancel' hn])
  have hsize : ((tarHeader name size).drop 124).take 11 = octal 11 size := by
    rw [tarHeader, hdrPre, List.append_assoc, List.append_assoc, List.append_assoc, List.append_assoc]
    exact field_at _ _ _ (hdrA_length name hn) (octal_length _ _)
  have hpre : (tarHeader name size).take 148 = hdrPre name size := by
    rw [tarHeader, List.append_assoc]; exact List.take_left' hpl
  have hck : ((tarHeader name size).drop 148).take 7 = octal 7 (hdrCksum name size) := by
    rw [tarHeader, List.append_assoc, List.append_assoc]; exact field_at _ _ _ hpl (octal_length _ _)
  have hpost : (tarHeader name size).drop 156 = hdrPost :=
    List.drop_left' (by simp only [List.length_append, hpl, octal_length, List.length_cons, List.length_nil])
  rw [hdrInfo_eq_ok, hname, hsize, hpre, hck, hpost, parseOctal_octal 7 _ (hdrCksum_lt name size hn), parseOctal_octal 11 _ hsz]
  refine ⟨?_, rfl, ?_, rfl⟩
  · -- not a zero block: the name is in it
    obtain ⟨b, hb⟩ := List.exists_mem_of_length_pos hn0
    exact List.all_eq_false.mpr
      ⟨b, List.mem_of_mem_take (hname ▸ List.mem_append_left _ hb), fun h => hnul b hb (beq_iff_eq.mp h)⟩
  · refine takeWhile_stop _ _ _ (fun b hb => bne_iff_ne.mpr (hnul b hb)) ?_
    rw [zeros, List.head?_replicate]
    split <;> decide

theorem EntryOK.header {e : Bytes × Bytes} (he : EntryOK e) : hdrInfo (tarHeader e.1 e.2.length) = .ok e.1 e.2.length :=
  hdrInfo_header e.1 e.2.length he.nameLen.1 he.nameLen.2 he.noNul he.size

theorem tarRead_block (fuel : Nat) (H body : Bytes) (hH : H.length = 512) (name : Bytes) (size : Nat)
    (h : hdrInfo H = .ok name size) :
    tarRead (fuel + 1) (H ++ body) =
      if body.length < size + padLen size then .err "truncated entry" else
      match tarRead fuel (body.drop (size + padLen size)) with
      | .ok (es, t) => .ok ((name, body.take size) :: es, t)
      | .err x => .err x
      | .panic p => .panic p := by
  obtain ⟨hz, hc, rfl, hs⟩ := (hdrInfo_eq_ok H name size).mp h
  have hl : ¬ (H ++ body).length < 512 := by rw [List.length_append, hH]; omega
  rw [tarRead, if_neg hl, List.take_left' hH, List.drop_left' hH]
  simp only [hz, hc, hs, ne_eq, not_true_eq_false, Bool.false_eq_true, ↓reduceIte]

theorem tarEntry_append (e : Bytes × Bytes) (rest : Bytes) :
    tarEntry e ++ rest = tarHeader e.1 e.2.length ++ (e.2 ++ zeros (padLen e.2.length) ++ rest) := by
  simp only [tarEntry, List.append_assoc]

theorem tarRead_entry (fuel : Nat) (e : Bytes × Bytes) (he : EntryOK e) (rest : Bytes) :
    tarRead (fuel + 1) (tarEntry e ++ rest) =
      match tarRead fuel rest with
      | .ok (es, t) => .ok (e :: es, t)
      | .err x => .err x
      | .panic p => .panic p := by
  have hp : (e.2 ++ zeros (padLen e.2.length)).length = e.2.length + padLen e.2.length := by
    rw [List.length_append, zeros_length]
  have hfits : ¬ (e.2 ++ zeros (padLen e.2.length) ++ rest).length < e.2.length + padLen e.2.length := by
    rw [List.length_append, hp]
    omega
  rw [tarEntry_append, tarRead_block fuel _ _ (tarHeader_length _ _ he.nameLen.2) _ _ he.header, if_neg hfits]
  rw [List.drop_left' hp, List.append_assoc, List.take_left' rfl]

theorem tarArchive_cons (e : Bytes × Bytes) (es : List (Bytes × Bytes)) : tarArchive (e :: es) = tarEntry e ++ tarArchive es := by
  simp only [tarArchive, List.flatMap_cons, List.append_assoc]

/-- **C18, tar round trip**: reading the archive the writer produced for an entry list returns that entry list — same names,
    same contents, same order -/
theorem tarRead_archive (es : List (Bytes × Bytes)) (hes : ∀ e ∈ es, EntryOK e) (fuel : Nat) (hf : es.length < fuel) :
    tarRead fuel (tarArchive es) = .ok (es, true) := by
  induction es generalizing fuel with
  | nil =>
    cases fuel with
    | zero => exact absurd hf (Nat.not_lt_zero _)
    | succ f =>
      -- two zero blocks
      show tarRead (f + 1) (zeros 1024) = _
      rw [tarRead, zeros_length, if_neg (by decide)]
      simp only [zeros_take, zeros_drop, zeros_all, ↓reduceIte]
      rfl
  | cons e t ih =>
    cases fuel with
    | zero => exact absurd hf (Nat.not_lt_zero _)
    | succ f =>
      rw [tarArchive_cons, tarRead_entry f e (hes e List.mem_cons_self) (tarArchive t),
        ih (fun e' he' => hes e' (List.mem_cons_of_mem e he')) f (Nat.lt_of_succ_lt_succ hf)]

theorem tarEntry_length_eq (e : Bytes × Bytes) (hn : e.1.length ≤ 100) :
    (tarEntry e).length = 512 + (e.2.length + padLen e.2.length) := by
  rw [tarEntry, List.length_append, List.length_append, tarHeader_length e.1 e.2.length hn, zeros_length, Nat.add_assoc]

/-- every member starts on a 512-byte boundary -/
theorem tarEntry_length (e : Bytes × Bytes) (hn : e.1.length ≤ 100) : (tarEntry e).length % 512 = 0 := by
  rw [tarEntry_length_eq e hn, padLen]
  omega

/-- every member takes at least its header block -/
theorem tarArchive_length_ge (es : List (Bytes × Bytes)) (hn : ∀ e ∈ es, e.1.length ≤ 100) :
    512 * es.length + 1024 ≤ (tarArchive es).length := by
  induction es with
  | nil => exact Nat.le_of_eq (zeros_length 1024).symm
  | cons e t ih =>
    have hL := tarEntry_length_eq e (hn e List.mem_cons_self)
    have ht := ih fun e' he' => hn e' (List.mem_cons_of_mem e he')
    rw [tarArchive_cons, List.length_append, List.length_cons]
    omega

#print axioms tarArchive_starts
#print axioms tarRead_archive
end Peppi
