import Peppi.Extracted
/-! `structRowOK` (the row view: `transpose_one` on both representations), decided by the kernel on the extracted views of
    the eleven generated structs. -/
namespace Peppi
open Extracted

theorem row_End : structRowOK End.views = true := by decide +kernel
theorem row_Item : structRowOK Item.views = true := by decide +kernel
theorem row_ItemMisc : structRowOK ItemMisc.views = true := by decide +kernel
theorem row_Position : structRowOK Position.views = true := by decide +kernel
theorem row_Post : structRowOK Post.views = true := by decide +kernel
theorem row_Pre : structRowOK Pre.views = true := by decide +kernel
theorem row_Start : structRowOK Start.views = true := by decide +kernel
theorem row_StateFlags : structRowOK StateFlags.views = true := by decide +kernel
theorem row_TriggersPhysical : structRowOK TriggersPhysical.views = true := by decide +kernel
theorem row_Velocities : structRowOK Velocities.views = true := by decide +kernel
theorem row_Velocity : structRowOK Velocity.views = true := by decide +kernel

end Peppi
