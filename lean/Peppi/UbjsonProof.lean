import Peppi.Ubjson
/-! C16: the byte layout of a metadata tree and the trees the writer accepts (`WF`); on those the writer produces the layout,
    and the reader run on the layout returns the tree. -/
namespace Peppi

def encStr (s : Bytes) : Bytes := [0x55, UInt8.ofNat s.length] ++ s

mutual
  /-- the UBJSON subset as the spec lays it out -/
  def encTree : Tree → Bytes
    | .str s => 0x53 :: encStr s
    | .int n => 0x6c :: toBE 4 (ofI32 n)
    | .map m => 0x7b :: (encKVs m ++ [0x7d])
  def encKVs : KVs → Bytes
    | .nil => []
    | .cons k v rest => encStr k ++ encTree v ++ encKVs rest
end

section
variable (utf8 : Bytes → Bool)

mutual
  /-- `d` = nesting level of the map that contains this value -/
  def Tree.WF : Nat → Tree → Prop
    | _, .str s => s.length ≤ 255 ∧ utf8 s = true
    | _, .int n => -2^31 ≤ n ∧ n < 2^31
    | d, .map m => KVs.WF (d+1) m
  /-- a map at nesting level `d` (the top-level `metadata` map is level 1) -/
  def KVs.WF : Nat → KVs → Prop
    | d, .nil => d ≤ MAX_DEPTH
    | d, .cons k v rest => k.length ≤ 255 ∧ utf8 k = true ∧ Tree.WF d v ∧ KVs.WF d rest ∧ rest.hasKey k = false
end

/-- `acc.append m`: what the reader holds after reading the entries of `m` into `acc` -/
def KVs.append : KVs → KVs → KVs
  | .nil, b => b
  | .cons k v rest, b => .cons k v (rest.append b)

mutual
  /-- the fuel the reader needs; `max`, not `+`: an entry's value and the entries after it are read with the same amount -/
  def costT : Tree → Nat
    | .str _ => 1
    | .int _ => 1
    | .map m => 1 + costK m
  def costK : KVs → Nat
    | .nil => 1
    | .cons _ v rest => 1 + max (costT v) (costK rest)
end

theorem toUtf8_enc (s rest : Bytes) (h1 : s.length ≤ 255) (h2 : utf8 s = true) :
    toUtf8 utf8 (UInt8.ofNat s.length :: (s ++ rest)) = .ok (s, rest) := by
  have hl : (UInt8.ofNat s.length).toNat = s.length := UInt8.toNat_ofNat_of_lt' (Nat.lt_succ_of_le h1)
  simp [toUtf8, hl, h2]

theorem KVs.WF_depth (d : Nat) : (m : KVs) → KVs.WF utf8 d m → d ≤ MAX_DEPTH
  | .nil, h => by simpa [KVs.WF] using h
  | .cons _ _ rest, h => by simp only [KVs.WF] at h; exact KVs.WF_depth d rest h.2.2.2.1

theorem KVs.insert_append (k : Bytes) (v : Tree) (r : KVs) :
    (acc : KVs) → acc.hasKey k = false → (acc.insert k v).append r = acc.append (.cons k v r)
  | .nil, _ => rfl
  | .cons k' v' rest, h => by
    simp only [KVs.hasKey, Bool.or_eq_false_iff, beq_eq_false_iff_ne] at h
    simp only [KVs.insert, h.1, ↓reduceIte, KVs.append, KVs.insert_append k v r rest h.2]

theorem KVs.hasKey_insert (k : Bytes) (v : Tree) (k2 : Bytes) : (acc : KVs) → (acc.insert k v).hasKey k2 = (acc.hasKey k2 || k == k2)
  | .nil => by simp [KVs.insert, KVs.hasKey]
  | .cons k' v' rest => by
    by_cases hk : k' = k
    · subst hk; simp only [KVs.insert, ↓reduceIte, KVs.hasKey]; cases k' == k2 <;> simp
    · simp only [KVs.insert, hk, ↓reduceIte, KVs.hasKey, KVs.hasKey_insert k v k2 rest, Bool.or_assoc]

theorem KVs.append_nil : (acc : KVs) → acc.append .nil = acc
  | .nil => rfl
  | .cons k v rest => by simp only [KVs.append, KVs.append_nil rest]

theorem costK_cons_le {k : Bytes} {v : Tree} {r : KVs} {fuel : Nat} (h : costK (.cons k v r) ≤ fuel + 1) :
    costT v ≤ fuel ∧ costK r ≤ fuel := by
  rw [costK, Nat.add_comm] at h
  exact Nat.max_le.mp (Nat.le_of_succ_le_succ h)

/-- values and maps together, by induction on the fuel (every call passes on one unit less) -/
theorem read_enc (fuel : Nat) :
    (∀ (t : Tree) (d : Nat) (rest : Bytes), Tree.WF utf8 d t → costT t ≤ fuel →
      toVal utf8 fuel d (encTree t ++ rest) = .ok (t, rest)) ∧
    (∀ (m : KVs) (d : Nat) (rest : Bytes) (acc : KVs), KVs.WF utf8 d m → costK m ≤ fuel →
      (∀ k, m.hasKey k = true → acc.hasKey k = false) →
      readMapLoop utf8 fuel d (encKVs m ++ 0x7d :: rest) acc = .ok (acc.append m, rest)) := by
  induction fuel with
  | zero =>
    exact ⟨fun t _ _ _ hf => by cases t <;> simp [costT] at hf, fun m _ _ _ _ hf => by cases m <;> simp [costK] at hf⟩
  | succ fuel ih =>
    constructor
    · intro t d rest hwf hf
      cases t with
      | str s =>
        simp only [encTree, encStr, List.cons_append, List.nil_append, toVal]
        rw [toUtf8_enc utf8 s rest hwf.1 hwf.2]
      | int n =>
        have hl : (toBE 4 (ofI32 n)).length = 4 := toBE_length _ _
        simp only [encTree, List.cons_append, toVal]
        rw [if_neg (by rw [List.length_append, hl]; omega), List.take_left' hl, List.drop_left' hl,
          fromBE_toBE _ _ (ofI32_lt n hwf), toI32_ofI32 n hwf]
      | map m =>
        rw [costT, Nat.add_comm] at hf
        simp only [encTree, List.cons_append, List.append_assoc, List.nil_append, toVal]
        rw [ih.2 m (d+1) rest .nil hwf (Nat.le_of_succ_le_succ hf) (fun _ _ => rfl)]
        rfl
    · intro m d rest acc hwf hf hacc
      have hd : ¬ (d > MAX_DEPTH) := Nat.not_lt.mpr (KVs.WF_depth utf8 d m hwf)
      cases m with
      | nil =>
        simp only [encKVs, List.nil_append, readMapLoop, hd, ↓reduceIte]
        rw [KVs.append_nil]
      | cons k v r =>
        obtain ⟨hk1, hk2, hv, hr, hfresh⟩ := hwf
        obtain ⟨hfv, hfr⟩ := costK_cons_le hf
        -- the keys still to come are not in the accumulator, and `k` is not among them
        have hfresh' : ∀ k2, r.hasKey k2 = true → (acc.insert k v).hasKey k2 = false := by
          intro k2 hk2'
          have hne : k ≠ k2 := fun he => by rw [he, hk2'] at hfresh; cases hfresh
          simp [KVs.hasKey_insert, hacc k2 (by simp [KVs.hasKey, hk2']), hne]
        have hknew : acc.hasKey k = false := hacc k (by simp [KVs.hasKey])
        simp only [encKVs, encStr, List.cons_append, List.nil_append, List.append_assoc, readMapLoop, hd, ↓reduceIte]
        simp only [toUtf8_enc utf8 k _ hk1 hk2, ih.1 v d _ hv hfv]
        -- the entries after it are read into `acc.insert k v`; `k` is new to the accumulator, so it went to its end
        rw [ih.2 r d rest (acc.insert k v) hr hfr hfresh', KVs.insert_append k v r acc hknew]

theorem toVal_enc (t : Tree) (d fuel : Nat) (rest : Bytes) (hwf : Tree.WF utf8 d t) (hf : costT t ≤ fuel) :
    toVal utf8 fuel d (encTree t ++ rest) = .ok (t, rest) :=
  (read_enc utf8 fuel).1 t d rest hwf hf

theorem writeUtf8_enc (s : Bytes) (h : s.length ≤ 255) : writeUtf8 s = .ok (encStr s) := by
  simp [writeUtf8, h, encStr]

mutual
  theorem writeVal_enc : (t : Tree) → (d : Nat) → Tree.WF utf8 d t → writeVal t = .ok (encTree t)
    | .str s, _, h => by rw [writeVal, writeUtf8_enc s h.1]; rfl
    | .int n, _, h => by rw [writeVal, if_pos (show -2^31 ≤ n ∧ n < 2^31 from h)]; rfl
    | .map m, d, h => by rw [writeVal, writeMap_enc m (d+1) h]; rfl
  theorem writeMap_enc : (m : KVs) → (d : Nat) → KVs.WF utf8 d m → writeMap m = .ok (encKVs m)
    | .nil, _, _ => rfl
    | .cons k v rest, d, h => by
      rw [writeMap, writeUtf8_enc k h.1, writeVal_enc v d h.2.2.1, writeMap_enc rest d h.2.2.2.1]; rfl
end

mutual
  theorem costT_le : (t : Tree) → costT t ≤ (encTree t).length
    | .str s => by simp [costT, encTree, encStr]
    | .int n => by simp [costT, encTree]
    | .map m => by
      have := costK_le m
      simp only [costT, encTree, List.length_cons, List.length_append, List.length_nil]; omega
  theorem costK_le : (m : KVs) → costK m ≤ (encKVs m).length + 1
    | .nil => by simp [costK, encKVs]
    | .cons k v rest => by
      have h1 := costT_le v; have h2 := costK_le rest
      simp only [costK, encKVs, encStr, List.length_append, List.length_cons]; omega
end

/-- C16 (read half): the reader returns exactly the tree, in order, and stops after the closing brace. -/
theorem readMap_enc (m : KVs) (rest : Bytes) (h : KVs.WF utf8 1 m) :
    readMap utf8 (encKVs m ++ 0x7d :: rest) = .ok (m, rest) := by
  have := costK_le m
  exact (read_enc utf8 _).2 m 1 rest .nil h (by rw [List.length_append]; omega) (fun _ _ => rfl)

end

#print axioms readMap_enc
#print axioms writeMap_enc
end Peppi
