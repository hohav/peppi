import Peppi.RollbacksProof
/-! C15: the two modes are mirror images — keep-last on a sequence is keep-first on the reversed sequence, reversed
    (the code runs the same pass "forward or reversed"). -/
namespace Peppi

private theorem mir_lt (n i : Nat) (h : i < n) : n - 1 - i < n := by omega

theorem C15_modes_mirror (ids : List Int) (h : ∀ x ∈ ids, FIRST_INDEX ≤ x) :
    ∃ m1 m2, rollbacks .exceptLast ids = .ok m1 ∧ rollbacks .exceptFirst ids.reverse = .ok m2 ∧ m1 = m2.reverse := by
  obtain ⟨m1, hm1, hl1, hs1⟩ := rollbacks_spec .exceptLast ids h
  obtain ⟨m2, hm2, hl2, hs2⟩ := rollbacks_spec .exceptFirst ids.reverse (fun x hx => h x (List.mem_reverse.mp hx))
  rw [List.length_reverse] at hl2
  refine ⟨m1, m2, hm1, hm2, List.ext_getElem? fun i => ?_⟩
  by_cases hi : i < ids.length
  · have hk : ids.length - 1 - i < ids.reverse.length := by rw [List.length_reverse]; exact mir_lt _ _ hi
    rw [List.getElem?_reverse (by omega), hl2, hs1 i hi, hs2 _ hk, List.take_reverse, List.getElem_reverse]
    simp only [List.mem_reverse, show ids.length - (ids.length - 1 - i) = i + 1 by omega,
      show ids.length - 1 - (ids.length - 1 - i) = i by omega]
  · rw [List.getElem?_eq_none (by omega), List.getElem?_eq_none (by rw [List.length_reverse]; omega)]

example : rollbacks .exceptLast [-123, -122, -123, -121] = .ok [true, false, false, false] ∧
    rollbacks .exceptFirst [-121, -123, -122, -123] = .ok [false, false, false, true] := by decide

end Peppi
