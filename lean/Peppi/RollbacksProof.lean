import Peppi.Rollbacks
/-! C15: on ids from `FIRST_INDEX` on, `rollbacks` marks a row iff its id occurs among the rows visited before it.  The loop
    is specified for any visiting order, so the forward (keep-first) and the reversed (keep-last) pass are one proof. -/
namespace Peppi

theorem zeroBased_ok {id : Int} (h : FIRST_INDEX ≤ id) : zeroBased id = .ok (id - FIRST_INDEX).toNat :=
  if_neg (Int.not_lt.mpr (Int.sub_nonneg_of_le h))

/-- The loop over any visiting order `ps` that writes no index twice, started with `seen` marking exactly the ids in
    `S`: each visited `(idx, id)` receives "`id` is in `S` or was visited earlier". -/
theorem rbLoop_spec (ps : List (Nat × Int)) (seen result : List Bool) (S : List Int)
    (hS : ∀ x, FIRST_INDEX ≤ x → (seen[(x - FIRST_INDEX).toNat]? = some true ↔ x ∈ S))
    (hz : ∀ p ∈ ps, FIRST_INDEX ≤ p.2 ∧ (p.2 - FIRST_INDEX).toNat < seen.length)
    (hidx : ∀ p ∈ ps, p.1 < result.length)
    (hnd : (ps.map Prod.fst).Nodup) :
    ∃ r, rbLoop ps seen result = .ok r ∧ r.length = result.length ∧
      (∀ k, k ∉ ps.map Prod.fst → r[k]? = result[k]?) ∧
      ∀ pre p post, ps = pre ++ p :: post → r[p.1]? = some (decide (p.2 ∈ S ++ pre.map Prod.snd)) := by
  induction ps generalizing seen result S with
  | nil => exact ⟨result, rfl, rfl, fun _ _ => rfl, fun pre p post h => by simp at h⟩
  | cons q rest ih =>
    obtain ⟨idx, id⟩ := q
    obtain ⟨hid, hzlt⟩ := hz _ List.mem_cons_self
    have hi0 : idx < result.length := hidx _ List.mem_cons_self
    obtain ⟨hnotin, hnd'⟩ := List.nodup_cons.mp hnd
    -- one step: `z` is the slot of `id`; row `idx` receives what the slot held, and the slot is marked
    generalize hzdef : (id - FIRST_INDEX).toNat = z at hzlt
    have hstep : rbLoop ((idx, id) :: rest) seen result = rbLoop rest (seen.set z true) (result.set idx seen[z]) := by
      simp only [rbLoop, zeroBased_ok hid, hzdef, dif_pos hzlt, if_pos hi0]
      cases hs : seen[z]
      · rfl
      · rw [← hs, List.set_getElem_self]; simp [hs]
    have hS' : ∀ x, FIRST_INDEX ≤ x → ((seen.set z true)[(x - FIRST_INDEX).toNat]? = some true ↔ x ∈ S ++ [id]) := by
      intro x hx
      rw [List.getElem?_set, List.mem_append, List.mem_singleton, ← hS x hx]
      by_cases he : x = id
      · subst he; simp [hzdef, hzlt]
      · have : ¬ z = (x - FIRST_INDEX).toNat := by omega
        simp [this, he]
    have hz' : ∀ p ∈ rest, FIRST_INDEX ≤ p.2 ∧ (p.2 - FIRST_INDEX).toNat < (seen.set z true).length :=
      fun p hp => by simpa using hz p (List.mem_cons_of_mem _ hp)
    have hidx' : ∀ p ∈ rest, p.1 < (result.set idx seen[z]).length :=
      fun p hp => by simpa using hidx p (List.mem_cons_of_mem _ hp)
    obtain ⟨r, hr, hlen, hout, hin⟩ := ih (seen.set z true) (result.set idx seen[z]) (S ++ [id]) hS' hz' hidx' hnd'
    refine ⟨r, hstep ▸ hr, by simpa using hlen, fun k hk => ?_, fun pre p post h => ?_⟩
    · rw [List.map_cons, List.mem_cons, not_or] at hk
      rw [hout k hk.2, List.getElem?_set_ne (Ne.symm hk.1)]
    · cases pre with
      | nil =>
        obtain ⟨rfl, -⟩ := List.cons.inj h
        have : seen[z] = decide (id ∈ S) := by
          have := hS id hid
          rw [hzdef, List.getElem?_eq_getElem hzlt, Option.some.injEq] at this
          exact Bool.eq_iff_iff.mpr (by simpa using this)
        rw [hout idx hnotin, List.getElem?_set_self hi0, this]; simp
      | cons q pre' =>
        obtain ⟨rfl, rfl⟩ := List.cons.inj h
        rw [hin pre' p post rfl]; simp

theorem uniqueCount_ok {ids : List Int} (h : ∀ x ∈ ids, FIRST_INDEX ≤ x) :
    ∃ u, uniqueCount ids = .ok u ∧ ∀ x ∈ ids, (x - FIRST_INDEX).toNat < u := by
  have hmax : maxId ids = ids.max? := by cases ids <;> rfl
  unfold uniqueCount
  cases hm : maxId ids with
  | none =>
    rw [hmax, List.max?_eq_none_iff] at hm
    exact ⟨0, rfl, by simp [hm]⟩
  | some m =>
    obtain ⟨hmem, hge⟩ := List.max?_eq_some_iff.mp (hmax ▸ hm)
    refine ⟨1 + (m - FIRST_INDEX).toNat, by simp [zeroBased_ok (h m hmem)], fun x hx => ?_⟩
    have := hge x hx; have := h x hx; omega

theorem rollbacks_order {ids : List Int} (h : ∀ x ∈ ids, FIRST_INDEX ≤ x) {u : Nat}
    (hu : ∀ x ∈ ids, (x - FIRST_INDEX).toNat < u) (ps : List (Nat × Int))
    (hps : ps.Perm ((List.range ids.length).zip ids)) :
    ∃ m, rbLoop ps (List.replicate u false) (List.replicate ids.length false) = .ok m ∧ m.length = ids.length ∧
      ∀ pre p post, ps = pre ++ p :: post → m[p.1]? = some (decide (p.2 ∈ pre.map Prod.snd)) := by
  have hmem : ∀ p ∈ ps, p.1 < ids.length ∧ p.2 ∈ ids := fun p hp => by
    have := List.of_mem_zip (hps.mem_iff.mp hp); simpa using this
  have hS : ∀ x, FIRST_INDEX ≤ x → ((List.replicate u false)[(x - FIRST_INDEX).toNat]? = some true ↔ x ∈ []) :=
    fun x _ => by simp [List.getElem?_replicate]
  have hz : ∀ p ∈ ps, FIRST_INDEX ≤ p.2 ∧ (p.2 - FIRST_INDEX).toNat < (List.replicate u false).length :=
    fun p hp => ⟨h _ (hmem p hp).2, by simpa using hu _ (hmem p hp).2⟩
  have hidx : ∀ p ∈ ps, p.1 < (List.replicate ids.length false).length :=
    fun p hp => by simpa using (hmem p hp).1
  -- the row numbers of `ps` are those of `range ids.length`, in another order
  have hnd : (ps.map Prod.fst).Nodup := by
    rw [(hps.map Prod.fst).nodup_iff, List.map_fst_zip (by simp)]
    exact List.nodup_range
  obtain ⟨m, hm, hl, -, hin⟩ := rbLoop_spec ps (List.replicate u false) (List.replicate ids.length false) [] hS hz hidx hnd
  exact ⟨m, hm, by simpa using hl, fun pre p post e => by simpa using hin pre p post e⟩

theorem pairs_split {ids : List Int} {i : Nat} (hi : i < ids.length) :
    ∃ pre post, (List.range ids.length).zip ids = pre ++ (i, ids[i]) :: post ∧
      pre.map Prod.snd = ids.take i ∧ post.map Prod.snd = ids.drop (i + 1) := by
  have hl : i < ((List.range ids.length).zip ids).length := by simpa using hi
  refine ⟨((List.range ids.length).zip ids).take i, ((List.range ids.length).zip ids).drop (i + 1), ?_, ?_, ?_⟩
  · have : (i, ids[i]) = ((List.range ids.length).zip ids)[i] := by simp
    rw [this, List.getElem_cons_drop, List.take_append_drop]
  · rw [List.map_take, List.map_snd_zip (by simp)]
  · rw [List.map_drop, List.map_snd_zip (by simp)]

/-- C15, both modes -/
theorem rollbacks_spec (keep : Rollbacks) (ids : List Int) (h : ∀ x ∈ ids, FIRST_INDEX ≤ x) :
    ∃ m, rollbacks keep ids = .ok m ∧ m.length = ids.length ∧ ∀ i (hi : i < ids.length),
      m[i]? = some (decide (ids[i] ∈ match keep with | .exceptFirst => ids.take i | .exceptLast => ids.drop (i + 1))) := by
  obtain ⟨u, hu, hlt⟩ := uniqueCount_ok h
  simp only [rollbacks, hu]
  cases keep with
  | exceptFirst =>
    obtain ⟨m, hm, hl, hin⟩ := rollbacks_order h hlt _ (List.Perm.refl _)
    refine ⟨m, hm, hl, fun i hi => ?_⟩
    obtain ⟨pre, post, e, hpre, -⟩ := pairs_split hi
    simpa [hpre] using hin pre _ post e
  | exceptLast =>
    obtain ⟨m, hm, hl, hin⟩ := rollbacks_order h hlt _ (List.reverse_perm _)
    refine ⟨m, hm, hl, fun i hi => ?_⟩
    obtain ⟨pre, post, e, -, hpost⟩ := pairs_split hi
    simpa [hpost] using hin post.reverse (i, ids[i]) pre.reverse (by simp [e])

/-- C15, keep-first mode. -/
theorem C15_first (ids : List Int) (h : ∀ x ∈ ids, FIRST_INDEX ≤ x) :
    ∃ m, rollbacks .exceptFirst ids = .ok m ∧ m.length = ids.length ∧
      ∀ i (hi : i < ids.length), (m[i]? = some true ↔ ∃ j, ∃ hj : j < i, ids[j] = ids[i]) := by
  obtain ⟨m, hm, hl, hs⟩ := rollbacks_spec .exceptFirst ids h
  refine ⟨m, hm, hl, fun i hi => ?_⟩
  rw [hs i hi, Option.some.injEq, decide_eq_true_iff, List.mem_take_iff_getElem]
  exact ⟨fun ⟨j, hj, e⟩ => ⟨j, Nat.lt_of_lt_of_le hj (Nat.min_le_left _ _), e⟩,
    fun ⟨j, hj, e⟩ => ⟨j, Nat.lt_min.mpr ⟨hj, Nat.lt_trans hj hi⟩, e⟩⟩

/-- C15, keep-last mode. -/
theorem C15_last (ids : List Int) (h : ∀ x ∈ ids, FIRST_INDEX ≤ x) :
    ∃ m, rollbacks .exceptLast ids = .ok m ∧ m.length = ids.length ∧
      ∀ i (hi : i < ids.length), (m[i]? = some true ↔ ∃ j, ∃ hj : j < ids.length, i < j ∧ ids[j] = ids[i]) := by
  obtain ⟨m, hm, hl, hs⟩ := rollbacks_spec .exceptLast ids h
  refine ⟨m, hm, hl, fun i hi => ?_⟩
  rw [hs i hi, Option.some.injEq, decide_eq_true_iff, List.mem_drop_iff_getElem]
  refine ⟨fun ⟨j, hj, e⟩ => ⟨i + 1 + j, by omega, by omega, e⟩,
    fun ⟨j, hj, hij, e⟩ => ⟨j - (i + 1), ?_, ?_⟩⟩
  · rwa [Nat.sub_add_cancel hij]
  · simpa only [Nat.add_sub_cancel' hij] using e

/-- non-vacuity: a concrete history with a triple repeat, a non-adjacent repeat and the first id -/
example : rollbacks .exceptFirst [-123, 7, -123, 7, 7, -100] = .ok [false, false, true, true, true, false] := by decide +kernel
example : rollbacks .exceptLast [-123, 7, -123, 7, 7] = .ok [true, true, false, true, false] := by decide +kernel

#print axioms C15_first
#print axioms C15_last
end Peppi
