import Peppi.Extracted
import Peppi.Spec
/-! Decidable premises about the tables extracted from the current source. -/
namespace Peppi
open Extracted

/-- what the spec calls `since`: gates that form a `chain` mean "`v ≥` the last one" (`chain_visible`); no gates give
    `(0, 0)`, which every version passes, as in `Spec` -/
def lastGate : List (Nat × Nat) → Nat × Nat
  | [] => (0, 0)
  | [a] => a
  | _ :: b :: t => lastGate (b :: t)
def sinceOf (f : Fld) : Nat × Nat := lastGate f.gates

/-- code table vs spec table: same names (by leaf id), types, widths, absolute offsets, first version -/
def matchesSpec (names : List (List Nat)) (types : List Nat) (code : List Fld) (hdr : Nat) (spec : List Spec.SField) : Bool :=
  code.length == spec.length &&
  (List.range code.length).all (fun k =>
    match code[k]?, spec[k]?, (staticOffsets code hdr)[k]? with
    | some f, some s, some off =>
      names[f.id]? == some s.name && types[f.id]? == some s.ty && f.width == Spec.width s.ty &&
      off == s.off && sinceOf f == s.since
    | _, _, _ => false)

/-- a gate list is a ≤-chain (so the conjunction equals its last element) -/
def chain : List (Nat × Nat) → Bool
  | [] => true
  | [_] => true
  | a :: b :: t => leqGate a b && chain (b :: t)

def tableOK (code : List Fld) : Bool := gatesMonotone code && code.all (fun f => chain f.gates)

theorem pre_views : Pre.readPush = Pre.write ∧ Pre.readPushTypes = Pre.writeTypes ∧
    Pre.size = Pre.readPush.map (fun f => (f.width, f.gates)) := by decide +kernel
theorem post_views : Post.readPush = Post.write ∧ Post.readPushTypes = Post.writeTypes ∧
    Post.size = Post.readPush.map (fun f => (f.width, f.gates)) := by decide +kernel
theorem start_views : Start.readPush = Start.write ∧ Start.size = Start.readPush.map (fun f => (f.width, f.gates)) := by decide +kernel
theorem item_views : Item.readPush = Item.write ∧ Item.size = Item.readPush.map (fun f => (f.width, f.gates)) := by decide +kernel
theorem end_views : End.readPush = End.write ∧ End.size = End.readPush.map (fun f => (f.width, f.gates)) := by decide +kernel

theorem pre_ok : tableOK Pre.readPush = true := by decide +kernel
theorem post_ok : tableOK Post.readPush = true := by decide +kernel
theorem start_ok : tableOK Start.readPush = true := by decide +kernel
theorem item_ok : tableOK Item.readPush = true := by decide +kernel
theorem end_ok : tableOK End.readPush = true := by decide +kernel

/-- The spec tables spell their field names as string literals, and `String` is a UTF-8 byte array: evaluating `Spec.n` on a
    literal, the kernel would encode the literal to bytes and decode the bytes again.  Rewriting with this first hands it
    the code points in place of that round trip (it identifies `"ab"` with `String.ofList ['a', 'b']` by itself). -/
theorem Spec.n_ofList (l : List Char) : Spec.n (String.ofList l) = l.map Char.toNat := by
  rw [Spec.n, String.toList_ofList]

theorem pre_spec : matchesSpec Pre.names Pre.types Pre.readPush Spec.preHdr Spec.pre = true := by
  unfold Spec.pre
  repeat rewrite [Spec.n_ofList]
  decide +kernel
theorem post_spec : matchesSpec Post.names Post.types Post.readPush Spec.postHdr Spec.post = true := by
  unfold Spec.post
  repeat rewrite [Spec.n_ofList]
  decide +kernel
theorem start_spec : matchesSpec Start.names Start.types Start.readPush Spec.startHdr Spec.start = true := by
  unfold Spec.start
  repeat rewrite [Spec.n_ofList]
  decide +kernel
theorem item_spec : matchesSpec Item.names Item.types Item.readPush Spec.itemHdr Spec.item = true := by
  unfold Spec.item
  repeat rewrite [Spec.n_ofList]
  decide +kernel
theorem end_spec : matchesSpec End.names End.types End.readPush Spec.endHdr Spec.fend = true := by
  unfold Spec.fend
  repeat rewrite [Spec.n_ofList]
  decide +kernel

#print axioms post_spec
end Peppi
