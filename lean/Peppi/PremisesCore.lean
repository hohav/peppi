import Peppi.Extracted
/-! `structCoreOK` (definitions, construction, parsing, serialisation, sizes, mutable→immutable conversion, validity
    bookkeeping), decided by the kernel on the extracted views of the eleven generated structs: a generated function that
    drops, swaps, re-gates or re-types a member makes its theorem fail.  The Booleans are `isEnd`, `hasValidity` (Views.lean). -/
namespace Peppi
open Extracted

theorem core_End : structCoreOK true true End.views = true := by decide +kernel
theorem core_Item : structCoreOK false true Item.views = true := by decide +kernel
theorem core_ItemMisc : structCoreOK false false ItemMisc.views = true := by decide +kernel
theorem core_Position : structCoreOK false true Position.views = true := by decide +kernel
theorem core_Post : structCoreOK false true Post.views = true := by decide +kernel
theorem core_Pre : structCoreOK false true Pre.views = true := by decide +kernel
theorem core_Start : structCoreOK false true Start.views = true := by decide +kernel
theorem core_StateFlags : structCoreOK false false StateFlags.views = true := by decide +kernel
theorem core_TriggersPhysical : structCoreOK false true TriggersPhysical.views = true := by decide +kernel
theorem core_Velocities : structCoreOK false true Velocities.views = true := by decide +kernel
theorem core_Velocity : structCoreOK false true Velocity.views = true := by decide +kernel

end Peppi
