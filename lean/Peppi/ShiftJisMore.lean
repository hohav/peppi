import Peppi.ShiftJis
/-! C19 for whole strings: `to_normalized` keeps the length and leaves no character it would change; text without such
    characters is a fixed point; decoding a field yields the decoder's text or the error, nothing else. -/
namespace Peppi

theorem toNormalized_image (s : List Nat) (h : ∀ c ∈ s, isScalar c) :
    ∃ t, toNormalized s = .ok t ∧ t.length = s.length ∧ (∀ c ∈ t, ¬ normDomain c ∧ isScalar c) ∧
      ∀ i (hi : i < s.length), t[i]? = some (normSpec s[i]) := by
  refine ⟨s.map normSpec, toNormalized_ok s h, by simp, ?_, ?_⟩
  · intro c hc
    obtain ⟨a, ha, rfl⟩ := List.mem_map.mp hc
    exact ⟨normSpec_image a, (fixChar_eq a (h a ha)).2⟩
  · intro i hi; simp [hi]

theorem toNormalized_fixed (s : List Nat) (h : ∀ c ∈ s, isScalar c) (hd : ∀ c ∈ s, ¬ normDomain c) :
    toNormalized s = .ok s := by
  rw [toNormalized_ok s h, List.map_congr_left fun c hc => normSpec_other c (hd c hc), List.map_id']

theorem meleeString_cases (sjis : List UInt8 → Option (List Nat)) (field : List UInt8) :
    (∃ s, sjis (field.takeWhile (· ≠ 0)) = some s ∧ meleeString sjis field = .ok s) ∨
    (sjis (field.takeWhile (· ≠ 0)) = none ∧ meleeString sjis field = .err "invalid Shift JIS sequence") := by
  unfold meleeString
  cases h : sjis (field.takeWhile (· ≠ 0)) with
  | none => exact Or.inr ⟨rfl, by simp only [h]⟩
  | some s => exact Or.inl ⟨s, rfl, by simp only [h]⟩

/-- non-vacuity: "ＡＢ　’”x" (full-width A, B, ideographic space, right quotes, ASCII x) -/
example : toNormalized [0xff21, 0xff22, 0x3000, 0x2019, 0x201d, 0x78] = .ok [0x41, 0x42, 0x20, 0x27, 0x22, 0x78] := by decide
/-- neighbours of the mapped ranges are untouched: U+FF00, U+FF5F, U+2018, U+201C, U+3001 -/
example : toNormalized [0xff00, 0xff5f, 0x2018, 0x201c, 0x3001] = .ok [0xff00, 0xff5f, 0x2018, 0x201c, 0x3001] := by decide

end Peppi
