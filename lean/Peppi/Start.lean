import Peppi.Res
import Peppi.Version
/-! Model of `game_start`, `player`, `game_end`, `player_end` (io/slippi/de.rs) and `port_occupancy`. -/
namespace Peppi

structure Team where
  color : Nat
  shade : Nat
deriving Repr, DecidableEq

structure Ucf where
  dashBack : Option Nat      -- 1 = UCF, 2 = Arduino
  shieldDrop : Option Nat
deriving Repr, DecidableEq

/-- Shift-JIS fields are kept as the slice handed to the decoder (first byte up to the first NUL) -/
structure Netplay where
  name : Bytes
  code : Bytes
  suid : Option Bytes
deriving Repr, DecidableEq

structure Player where
  port : Nat
  character : Nat
  type : Nat                 -- 0 human, 1 CPU, 2 demo
  stocks : Nat
  costume : Nat
  team : Option Team
  handicap : Nat
  bitfield : Nat
  cpuLevel : Option Nat
  offenseRatio : Nat         -- f32 bits
  defenseRatio : Nat
  modelScale : Nat
  ucf : Option Ucf
  nameTag : Option Bytes
  netplay : Option Netplay
deriving Repr, DecidableEq

structure Match where
  id : Bytes
  game : Nat
  tiebreaker : Nat
deriving Repr, DecidableEq

structure Start where
  version : Ver
  bitfield : Bytes
  isRainingBombs : Bool
  isTeams : Bool
  itemSpawnFrequency : Nat   -- i8 bits
  selfDestructScore : Nat
  stage : Nat
  timer : Nat
  itemSpawnBitfield : Bytes
  damageRatio : Nat
  players : List Player
  randomSeed : Nat
  bytes : Bytes
  isPal : Option Bool
  isFrozenPs : Option Bool
  scene : Option (Nat × Nat)       -- (minor, major)
  language : Option Nat
  match_ : Option Match
deriving Repr, DecidableEq

def NUM_PORTS : Nat := 4
def MAX_PLAYERS : Nat := 6
def ICE_CLIMBERS : Nat := 14

/-- externals of the start block: Shift-JIS and UTF-8 acceptance -/
structure TextOracle where
  sjisOk : Bytes → Bool
  utf8Ok : Bytes → Bool

def untilNul (b : Bytes) : Bytes := b.takeWhile (· ≠ 0)

/-- `MeleeString::try_from` -/
def meleeField (T : TextOracle) (b : Bytes) : Res Bytes :=
  if T.sjisOk (untilNul b) then .ok (untilNul b) else .err "invalid Shift JIS sequence"

/-- `first_null = position(0).unwrap_or(n)`; `from_utf8(&buf[0..first_null])` -/
def utf8Field (T : TextOracle) (b : Bytes) (dflt : Nat) : Res Bytes :=
  let s := if b.contains 0 then untilNul b else b.take dflt
  if T.utf8Ok s then .ok s else .err "invalid utf8"

def ucfEnum (x : Nat) : Res (Option Nat) :=
  if x = 0 then .ok none else if x = 1 ∨ x = 2 then .ok (some x) else .err "invalid enum"

/-- `player()` -/
def player (T : TextOracle) (port : Nat) (v0 : Bytes) (isTeams : Bool) (v1_0 : Option Bytes) (v1_3 : Option Bytes)
    (v3_9name v3_9code : Option Bytes) (v3_11 : Option Bytes) : Res (Option Player) := do
  let at_ (o w : Nat) : Nat := fromBE ((v0.drop o).take w)
  let character := at_ 0 1
  let tyByte := at_ 1 1
  let ty : Option Nat := if tyByte ≤ 2 then some tyByte else none
  let stocks := at_ 2 1
  let costume := at_ 3 1
  let teamShade := at_ 7 1
  let handicap := at_ 8 1
  let teamColor := at_ 9 1
  let team := if isTeams then some ⟨teamColor, teamShade⟩ else none
  let bitfield := at_ 12 1
  let cpuLevel := if ty = some 1 then some (at_ 15 1) else none
  let offense := at_ 24 4
  let defense := at_ 28 4
  let model := at_ 32 4
  let ucf ← match v1_0 with
    | some b => do
        let db ← ucfEnum (fromBE (b.take 4))
        let sd ← ucfEnum (fromBE ((b.drop 4).take 4))
        pure (some (Ucf.mk db sd))
    | none => pure none
  let nameTag ← match v1_3 with
    | some b => do let s ← meleeField T b; pure (some s)
    | none => pure none
  let netplay ← match v3_9name, v3_9code with
    | some nm, some cd => do
        let suid ← match v3_11 with
          | some b => do let s ← utf8Field T b 28; pure (some s)
          | none => pure none
        let name ← meleeField T nm
        let code ← meleeField T cd
        pure (some (Netplay.mk name code suid))
    | _, _ => pure none
  pure (ty.map fun t => { port, character, type := t, stocks, costume, team, handicap, bitfield, cpuLevel,
                          offenseRatio := offense, defenseRatio := defense, modelScale := model, ucf, nameTag, netplay })

/-- `player_bytes::<N, M>` -/
def playerBytes (n m : Nat) : Rd (List Bytes) := fun bs =>
  if bs.length < n * m then .err "eof"
  else .ok ((List.range m).map (fun i => (bs.drop (n * i)).take n), bs.drop (n * m))

def collectPlayers (ps : List (Res (Option Player))) : Res (List Player) :=
  ps.foldr (fun r acc => do
    let o ← r
    let rest ← acc
    pure (match o with | some p => p :: rest | none => rest)) (pure [])

/-- `game_start` -/
def gameStartP (T : TextOracle) (block : Bytes) : Rd Start := do
    let major ← Rd.u8; let minor ← Rd.u8; let patch ← Rd.u8
    Rd.skip 1
    let bitfield ← Rd.take 4
    Rd.skip 2
    let bombs ← Rd.u8
    Rd.skip 1
    let teams ← Rd.u8
    Rd.skip 2
    let isf ← Rd.u8
    let sds ← Rd.u8
    Rd.skip 1
    let stage ← Rd.be 2
    let timer ← Rd.be 4
    Rd.skip 15
    let isb ← Rd.take 5
    Rd.skip 8
    let damageRatio ← Rd.be 4
    Rd.skip 44
    let playersV0 ← playerBytes 36 MAX_PLAYERS
    let randomSeed ← Rd.be 4
    let v1_0 ← ifMore (playerBytes 8 NUM_PORTS)
    let v1_3 ← ifMore (playerBytes 16 NUM_PORTS)
    let isPal ← ifMore (do let b ← Rd.u8; pure (b != 0))
    let isFrozen ← ifMore (do let b ← Rd.u8; pure (b != 0))
    let scene ← ifMore (do let mi ← Rd.u8; let ma ← Rd.u8; pure (mi, ma))
    let v3_9 ← ifMore (do let a ← playerBytes 31 NUM_PORTS; let b ← playerBytes 10 NUM_PORTS; pure (a, b))
    let v3_11 ← ifMore (playerBytes 29 NUM_PORTS)
    let language ← ifMore (do let l ← Rd.u8; if l ≤ 1 then pure l else Rd.fail "invalid language")
    let match_ ← ifMore (do
      let buf ← Rd.take 51
      let id ← Rd.lift (utf8Field T buf 50)
      let game ← Rd.be 4
      let tb ← Rd.be 4
      pure (Match.mk id game tb))
    let isTeams := teams != 0
    let players ← Rd.lift (collectPlayers ((List.range NUM_PORTS).map fun n =>
      player T n (playersV0.getD n []) isTeams (v1_0.map (·.getD n [])) (v1_3.map (·.getD n []))
        (v3_9.map (·.1.getD n [])) (v3_9.map (·.2.getD n [])) (v3_11.map (·.getD n []))))
    pure { version := ⟨major, minor, patch⟩, bitfield, isRainingBombs := bombs != 0, isTeams,
           itemSpawnFrequency := isf, selfDestructScore := sds, stage, timer, itemSpawnBitfield := isb,
           damageRatio, players, randomSeed, bytes := block, isPal, isFrozenPs := isFrozen, scene, language, match_ }

/-- `game_start`: `let bytes = game::Bytes(r.to_vec())` is taken before parsing and stored verbatim -/
def gameStart (T : TextOracle) (block : Bytes) : Res Start :=
  match gameStartP T block block with
  | .ok (s, _) => .ok { s with bytes := block }
  | .err e => .err e
  | .panic s => .panic s

structure PlayerEnd where
  port : Nat
  placement : Nat
deriving Repr, DecidableEq

structure End where
  method : Nat
  bytes : Bytes
  lrasInitiator : Option (Option Nat)
  players : Option (List PlayerEnd)
deriving Repr, DecidableEq

/-- `game_end` -/
def gameEndP (block : Bytes) : Rd End := do
    let method ← Rd.u8
    if ¬ (method ≤ 3 ∨ method = 7) then Rd.fail "invalid end method" else
    let lras ← ifMore (do
      let x ← Rd.u8
      if x = 255 then pure none else if x ≤ 3 then pure (some x) else Rd.fail "invalid port")
    let players ← ifMore (do
      let pl ← Rd.take 4
      -- placements as i8: 255 = -1 = none, 0..=3 ok, anything else is an error
      let rec go : Nat → List UInt8 → Res (List PlayerEnd)
        | _, [] => .ok []
        | n, b :: rest =>
          if b.toNat = 255 then go (n+1) rest
          else if b.toNat ≤ 3 then (do let t ← go (n+1) rest; pure (⟨n, b.toNat⟩ :: t))
          else .err "Invalid player placement"
      Rd.lift (go 0 pl))
    pure { method, bytes := block, lrasInitiator := lras, players }

/-- `game_end` -/
def gameEnd (block : Bytes) : Res End :=
  match gameEndP block block with
  | .ok (e, _) => .ok { e with bytes := block }
  | .err e => .err e
  | .panic s => .panic s

/-- `game::End::size(version)` -/
def endSize (v : Ver) : Nat := if v.gte 3 13 then 6 else if v.gte 2 0 then 2 else 1

structure PortOccupancy where
  port : Nat
  follower : Bool
deriving Repr, DecidableEq

def portOccupancy (s : Start) : List PortOccupancy := s.players.map fun p => ⟨p.port, p.character == ICE_CLIMBERS⟩

theorem gameStart_bytes (T : TextOracle) (block : Bytes) (s : Start) (h : gameStart T block = .ok s) : s.bytes = block := by
  unfold gameStart at h
  split at h
  · simp only [Res.ok.injEq] at h; subst h; rfl
  · simp at h
  · simp at h

theorem gameEnd_bytes (block : Bytes) (e : End) (h : gameEnd block = .ok e) : e.bytes = block := by
  unfold gameEnd at h
  split at h
  · simp only [Res.ok.injEq] at h; subst h; rfl
  · simp at h
  · simp at h

/-! What the read theorems say of Game End: `raw.map gameEnd = ge.map Res.ok` (absent, or parsed without error). -/

theorem parsedEnd_bytes {raw : Option Bytes} {ge : Option End} (h : raw.map gameEnd = ge.map Res.ok) :
    raw = ge.map (·.bytes) := by
  cases raw with
  | none => cases ge with
    | none => rfl
    | some g => cases h
  | some b => cases ge with
    | none => cases h
    | some g => exact congrArg some (gameEnd_bytes b g (Option.some.inj h)).symm

theorem parsedEnd_unique {raw : Option Bytes} {ge ge' : Option End} (h : raw.map gameEnd = ge.map Res.ok)
    (h' : raw.map gameEnd = ge'.map Res.ok) : ge = ge' :=
  Option.map_injective (fun _ _ => Res.ok.inj) (h.symm.trans h')

theorem parsedEnd_some {raw : Option Bytes} {e : Bytes} {ge : End} (hfe : raw = some e) (hge : gameEnd e = .ok ge) :
    raw.map gameEnd = (some ge).map Res.ok := by
  rw [hfe]
  exact congrArg some hge

end Peppi
