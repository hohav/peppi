import Peppi.C02Bytes
import Peppi.PeppiJson
import Peppi.Ser
import Peppi.Lemmas.Example
/-! Non-vacuity of `C02_bytes`: a concrete codec at the types the theorem needs, and a concrete replay. -/
namespace Peppi
open Extracted

def exCodecA : Codec KVs AFrame where
  encPeppi := encPeppiJ
  decPeppi := decPeppiJ
  encMeta := jsonMeta
  decMeta := parseMeta
  startJson _ := []
  endJson _ := []
  encFrames := Ser.aFrame.enc
  decFrames bs := match Ser.aFrame.dec bs with | some (a, []) => (true, [.chunk (normF a)]) | _ => (true, [.fail])
  norm := normF
  peppi_rt := decPeppiJ_enc
  meta_rt := parseMeta_json
  frames_rt f := by
    have := Ser.aFrame.rt f []
    simp only [List.append_nil] at this
    simp only [this]

theorem sizesOK_toP (C : Codec KVs AFrame) (g : Game)
    (h1 : (C.encPeppi none g.doubleGameEnd).length < 8 ^ 11) (h2 : (C.encMeta g.metadata).length < 8 ^ 11)
    (h3 : (C.startJson g.start).length < 8 ^ 11) (h4 : g.start.bytes.length < 8 ^ 11)
    (h5 : ∀ e, g.fend = some e → (C.endJson e).length < 8 ^ 11 ∧ e.bytes.length < 8 ^ 11)
    (h6 : ∀ k, g.gecko = some k → 4 + k.bytes.length < 8 ^ 11)
    (h7 : g.frames.id ≠ [] → (C.encFrames (intoF' (widthsOf g.start.version) g.frames)).length < 8 ^ 11) :
    SizesOK C (toP g none) g.start.bytes (g.fend.map (·.bytes)) := by
  refine slppEntries_forall C (toP g none) _ _ (fun e => e.2.length < 8 ^ 11) h1 h2 h3 h4 (fun e he => (h5 e he).1) ?_ ?_ ?_
  · intro eb heb
    obtain ⟨e, he, rfl⟩ := Option.map_eq_some_iff.mp heb
    exact (h5 e he).2
  · intro c hc
    obtain ⟨k, hk, rfl⟩ := Option.map_eq_some_iff.mp hc
    have := h6 k hk
    simp only [List.length_append, leU32', List.length_reverse, toBE_length]
    omega
  · intro f hf
    by_cases hid : g.frames.id = []
    · simp [toP, hid] at hf
    · simp only [toP, hid, ↓reduceIte, Option.some.injEq] at hf
      subst hf
      exact h7 hid

/-- the size side condition of `C02_bytes` from bounds on the parts of the replay: what the reader returns is `r.gameAny`, whose
    start and end blocks are those of `r` (below 2^16 bytes) -/
theorem sizesOK_replay (C : Codec KVs AFrame) {T : TextOracle} {r : Replay} {s : Start} {gk : Option GeckoBlocks} (h : r.WFAny T s gk)
    (h1 : (C.encPeppi none (if r.doubled then some true else none)).length < 8 ^ 11)
    (h2 : (C.encMeta r.metadata).length < 8 ^ 11)
    (h3 : (C.startJson s).length < 8 ^ 11)
    (h5 : ∀ e, (C.endJson e).length < 8 ^ 11)
    (h6 : ∀ k, gk = some k → 4 + (catData k.all).length < 8 ^ 11)
    (h7 : (C.encFrames (intoF' (widthsOf s.version) (expFrames s.version (portOccupancy s) r.frames))).length < 8 ^ 11) :
    ∀ g, readSlp T {} (r.encodeAny s.version (portOccupancy s) gk) = .ok g →
      SizesOK C (toP g none) g.start.bytes (g.fend.map (·.bytes)) := by
  intro g hg
  obtain ⟨ge, hge⟩ := h.parsedEnd
  obtain rfl : r.gameAny s ge gk = g := Res.ok.inj ((readSlp_plain_any h hge).symm.trans hg)
  rw [Replay.gameAny_eq]
  refine sizesOK_toP C _ h1 h2 h3 ?_ ?_ ?_ fun _ => h7
  · show s.bytes.length < _
    rw [gameStart_bytes T _ _ h.start]
    exact Nat.lt_trans h.startLen.2 (by decide)
  · rintro e ⟨⟩
    obtain ⟨-, hlen, -⟩ := h.endOK e.bytes (parsedEnd_bytes hge)
    exact ⟨h5 e, Nat.lt_trans hlen (by decide)⟩
  · intro k hk
    cases gk with
    | none => cases hk
    | some b => cases hk; exact h6 b rfl

def exR : Replay := exReplay (exBlock 3 16 760) (exFrames [-123, -122, -122] 17 32 2 16 1 true) [2, 255, 0, 1, 255, 255]
def exS : Start := startOf (exBlock 3 16 760)

theorem exR_wf : exR.WFAny T0 exS none := example_A

/-- the hypotheses of `C02_bytes` are jointly satisfiable: a 3.16 replay with three frame occurrences (one a rollback), Ice
    Climbers, items, doubled Game End and metadata, and a concrete codec whose frame part is a self-delimiting encoding
    followed by the validity normalisation -/
theorem C02_bytes_example :
    ∃ g p, readSlp T0 {} (exR.encodeAny exS.version (portOccupancy exS) none) = .ok g ∧
      slppRead exCodecA T0 false (slppWrite exCodecA (toP g none) g.start.bytes (g.fend.map (·.bytes))) = .ok p ∧
      writeSlp (ofP p) = .ok (exR.encodeAny exS.version (portOccupancy exS) none) := by
  obtain ⟨_, _, hv, hp⟩ := exStart_A
  have hmax : assertMaxVersion exS.version = .ok () := hv ▸ (by decide : assertMaxVersion ⟨3, 16, 0⟩ = .ok ())
  refine C02_bytes exCodecA rfl T0 exR exS none exR_wf hmax ?_
  -- every entry of the archive is shorter than 8 ^ 11: the size field of a tar header has eleven octal digits
  refine sizesOK_replay exCodecA exR_wf ?_ ?_ ?_ ?_ ?_ ?_
  · -- `peppi.json`
    decide +kernel
  · -- `metadata.json`
    decide +kernel
  · -- `start.json`, empty in this codec
    decide
  · -- `end.json`, empty as well
    intro _
    show 0 < 8 ^ 11
    decide
  · -- no Gecko block
    intro _ h
    cases h
  · -- `frames.arrow`: measured by `Ser.Size` on the version and ports as literals
    show (Ser.aFrame.enc (intoF' (widthsOf exS.version) (expFrames exS.version (portOccupancy exS) exR.frames))).length < _
    rw [Ser.Size.aFrame.ok, show exS.version = _ from hv, show portOccupancy exS = _ from hp]
    decide +kernel

#print axioms C02_bytes_example
end Peppi
