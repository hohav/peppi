import Peppi.SlppCut
import Peppi.Lemmas.Example
/-! Non-vacuity of the `.slpp` truncation theorem: a codec that satisfies the laws of `CodecT` and a concrete game whose
    archive meets the hypotheses of `slppReadL_cut`. -/
namespace Peppi

/-- frames as `1, b` per byte, terminated by `0`: a decoder can tell a truncated stream (for `toyCodecT`) -/
def toyEncF : Bytes → Bytes
  | [] => [0]
  | b :: t => 1 :: b :: toyEncF t

/-- `none`: the stream ended before its terminator -/
def toyDecF : Bytes → Option Bytes
  | [] => none
  | 0 :: _ => some []
  | [_] => none
  | _ :: b :: rest => (toyDecF rest).map (b :: ·)

theorem toyDecF_one (b : UInt8) (rest : Bytes) : toyDecF (1 :: b :: rest) = (toyDecF rest).map (b :: ·) := by
  rw [toyDecF]; simp

theorem toyDecF_enc (f : Bytes) : toyDecF (toyEncF f) = some f := by
  induction f with
  | nil => rfl
  | cons b t ih => simp [toyEncF, toyDecF, ih]

theorem toyDecF_prefix (f : Bytes) : ∀ (n : Nat) (f' : Bytes), toyDecF ((toyEncF f).take n) = some f' → f' = f := by
  induction f with
  | nil =>
    intro n f' h
    cases n with
    | zero => cases h
    | succ n => exact (Option.some.inj h).symm
  | cons b t ih =>
    intro n f' h
    match n, h with
    | 0, h => cases h
    | 1, h => cases h
    | n + 2, h =>
      rw [toyEncF, List.take_succ_cons, List.take_succ_cons, toyDecF_one] at h
      obtain ⟨x, hx, rfl⟩ := Option.map_eq_some_iff.mp h
      rw [ih n x hx]

def toyDecFrames (bs : Bytes) : Bool × List (SItem Bytes) :=
  match toyDecF bs with
  | some f => (true, [.chunk f])
  | none => (true, [.waiting])

/-- the laws of `CodecT`, those of the round trip and those of truncation, are jointly satisfiable -/
def toyCodecT : CodecT Bytes Bytes where
  toCodec := { toyCodec with encFrames := toyEncF, decFrames := toyDecFrames,
                             norm := fun f => f,
                             frames_rt := fun f => by simp [toyDecFrames, toyDecF_enc] }
  peppi_np b s := by
    show toyDecPeppi b ≠ _
    unfold toyDecPeppi
    split <;> simp
  meta_np b s := by
    -- `toyCodec.decMeta b` unfolded, for `split` to find the `match`
    show (match b with | 0 :: _ => Res.ok none | 1 :: b => .ok (some b) | _ => .err "json") ≠ _
    split <;> simp
  frames_prefix f n f' _ h := by
    have h' : readArrowFrames (toyDecFrames ((toyEncF f).take n)).2 = .ok f' := h
    unfold toyDecFrames at h'
    cases hd : toyDecF ((toyEncF f).take n) with
    | none => rw [hd] at h'; simp [readArrowFrames, readArrowLoop] at h'
    | some x =>
      rw [hd] at h'
      simp only [readArrowFrames, readArrowLoop, Res.ok.injEq] at h'
      rw [← h']; exact toyDecF_prefix f n x hd

/-- a concrete game for the non-vacuity check: 3.17 start block, no end, metadata, Gecko codes, frames, the quirk -/
def exPGame : PGame Bytes Bytes :=
  { start := startOf (exBlock 3 17 760), fend := none, metadata := some [1, 2], gecko := some ([9, 9, 9], 3),
    frames := some [5, 6, 7], hash := none, quirks := some true }

-- `SizesOK` can be decided on a concrete game; that builds every entry's bytes, so `exPGame_cut` goes entry by entry instead
instance {μ φ : Type} (C : Codec μ φ) (g : PGame μ φ) (sb : Bytes) (eb : Option Bytes) : Decidable (SizesOK C g sb eb) := by
  unfold SizesOK; exact inferInstance

/-- the hypotheses of `slppReadL_cut` are met by a concrete game and the toy codec; so every cut of that archive is an error
    or the whole game -/
theorem exPGame_cut (skip : Bool) (n : Nat) :
    (∃ m, slppReadL toyCodecT.toCodec T0 skip ((slppWrite toyCodecT.toCodec exPGame (exBlock 3 17 760) none).take n) = .err m) ∨
    slppReadL toyCodecT.toCodec T0 skip ((slppWrite toyCodecT.toCodec exPGame (exBlock 3 17 760) none).take n) =
      .ok (if skip then { exPGame with frames := none } else { exPGame with frames := exPGame.frames.map toyCodecT.norm }) := by
  have hs : SizesOK toyCodecT.toCodec exPGame (exBlock 3 17 760) none := by
    -- `exPGame` has no end block and is written without one: the two `end` entries are not there
    refine slppEntries_forall _ exPGame (exBlock 3 17 760) none (fun e => e.2.length < 8 ^ 11)
      (peppi := by decide) (metadata := by decide) (startj := by decide) (startr := ?_) (endj := nofun) (endr := nofun)
      (gecko := fun c h => by cases h; decide) (frames := fun f h => by cases h; decide)
    show (exBlock 3 17 760).length < _
    rw [exStart_N.2.1]
    decide
  have hstart : gameStart T0 (exBlock 3 17 760) = .ok exPGame.start := by
    unfold exPGame
    dsimp only
    exact startOf_ok _ exStart_N.1
  exact slppReadL_cut toyCodecT T0 exPGame (exBlock 3 17 760) none hstart rfl (fun c h => by cases h; decide) hs skip n

#print axioms exPGame_cut
end Peppi
