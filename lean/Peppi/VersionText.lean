import Peppi.VersionProof
/-! C20: the text `Display` produces has 5 to 11 characters, all digits except exactly two dots (no sign and no leading
    zero within a component: `showU8_canonical`). -/
namespace Peppi

theorem Ver.display_length (v : Ver) (h : v.WF) : 5 ≤ v.display.length ∧ v.display.length ≤ 11 := by
  obtain ⟨h1, h2, h3⟩ := h
  have a := showU8_canonical _ h1; have b := showU8_canonical _ h2; have c := showU8_canonical _ h3
  unfold Ver.display; simp only [List.length_append, List.length_cons, List.length_nil]; omega

theorem Ver.display_chars (v : Ver) (h : v.WF) :
    v.display.all (fun c => isDigit c || c == '.') = true ∧ (v.display.filter (· == '.')).length = 2 := by
  obtain ⟨h1, h2, h3⟩ := h
  have a := (showU8_canonical _ h1).1; have b := (showU8_canonical _ h2).1; have c := (showU8_canonical _ h3).1
  have nd : ∀ n, n < 256 → (showU8 n).filter (· == '.') = [] := by
    intro n hn
    rw [List.filter_eq_nil_iff]
    intro x hx
    have := List.all_eq_true.mp (showU8_nodot n hn) x hx
    simpa using this
  have dg : ∀ l : List Char, l.all isDigit = true → l.all (fun c => isDigit c || c == '.') = true := by
    intro l hl; rw [List.all_eq_true] at *; intro x hx; simp [hl x hx]
  refine ⟨?_, ?_⟩
  · unfold Ver.display
    simp only [List.all_append, dg _ a, dg _ b, dg _ c, Bool.and_true, Bool.true_and]
    decide
  · unfold Ver.display
    simp only [List.filter_append, nd _ h1, nd _ h2, nd _ h3, List.nil_append, List.append_nil]
    decide

example : Ver.display ⟨0, 10, 255⟩ = "0.10.255".toList := by decide +kernel

end Peppi
