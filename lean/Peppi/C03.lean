import Peppi.Premises
/-! C03 for any code table that passes `tableOK` and `matchesSpec`: the gates of a field then mean "`v ≥` the last one"
    (`chain_visible`), and `readRow_field` does the rest. -/
namespace Peppi
open Extracted

theorem chain_visible (v : Ver) : (gs : List (Nat × Nat)) → chain gs = true →
    gs.all (fun g => v.gte g.1 g.2) = v.gte (lastGate gs).1 (lastGate gs).2
  | [], _ => ((Ver.gte_iff v 0 0).mpr (by omega)).symm
  | [a], _ => by simp [lastGate]
  | a :: b :: t, hc => by
    simp only [chain, Bool.and_eq_true] at hc
    have ih := chain_visible v (b :: t) hc.2
    rw [List.all_cons, ih, lastGate]
    cases hl : v.gte (lastGate (b :: t)).1 (lastGate (b :: t)).2 with
    | false => simp
    | true =>
      -- the last gate implies all of `b :: t`, so `b`, so `a`
      rw [hl, List.all_cons, Bool.and_eq_true] at ih
      simp [gte_of_leqGate v hc.1 ih.1]

theorem visible_iff_since (v : Ver) (f : Fld) (hc : chain f.gates = true) :
    visible v f = v.gte (sinceOf f).1 (sinceOf f).2 := by
  unfold visible sinceOf; exact chain_visible v f.gates hc

/-- C03, generic form: for a code table that matches a spec table, every spec field is decoded as the
    big-endian value at its spec offset when the version has it, and is absent otherwise. -/
theorem C03_generic (names : List (List Nat)) (types : List Nat) (code : List Fld) (hdr : Nat) (spec : List Spec.SField)
    (hok : tableOK code = true) (hspec : matchesSpec names types code hdr spec = true)
    (v : Ver) (payload : Bytes) (vals : List Nat) (rest : Bytes)
    (h : readRow v code (payload.drop hdr) = some (vals, rest))
    (k : Nat) (hk : k < spec.length) :
    (v.gte (spec[k]).since.1 (spec[k]).since.2 = true →
        vals[k]? = some (fromBE ((payload.drop (spec[k]).off).take (Spec.width (spec[k]).ty)))) ∧
    (v.gte (spec[k]).since.1 (spec[k]).since.2 = false → vals[k]? = none) := by
  simp only [tableOK, Bool.and_eq_true] at hok
  obtain ⟨hmono, hchain⟩ := hok
  simp only [matchesSpec, Bool.and_eq_true, beq_iff_eq] at hspec
  obtain ⟨hlen, hall⟩ := hspec
  have hk' : k < code.length := by omega
  have hrow := (List.all_eq_true.mp hall) k (List.mem_range.mpr hk')
  have hso : k < (staticOffsets code hdr).length := by rw [staticOffsets_length]; exact hk'
  simp only [List.getElem?_eq_getElem hk', List.getElem?_eq_getElem hk, List.getElem?_eq_getElem hso,
    Bool.and_eq_true, beq_iff_eq] at hrow
  obtain ⟨⟨⟨⟨_, _⟩, hw⟩, hoff⟩, hsince⟩ := hrow
  have hvis := visible_iff_since v code[k] ((List.all_eq_true.mp hchain) _ (List.getElem_mem _))
  rw [readRow_field v code hmono payload hdr vals rest h k hk' _ (List.getElem?_eq_getElem hso), hvis, hsince, hw, hoff]
  constructor <;> intro hg <;> simp [hg]

/-- C03 for the five frame events of the code as it stands: the tables are the ones extracted from the current source
    (`Extracted.lean`).  `def`s without a type, so that the statement is `C03_generic`'s and not a copy of it. -/
def C03_pre := C03_generic Pre.names Pre.types Pre.readPush Spec.preHdr Spec.pre pre_ok pre_spec
def C03_post := C03_generic Post.names Post.types Post.readPush Spec.postHdr Spec.post post_ok post_spec
def C03_start := C03_generic Start.names Start.types Start.readPush Spec.startHdr Spec.start start_ok start_spec
def C03_item := C03_generic Item.names Item.types Item.readPush Spec.itemHdr Spec.item item_ok item_spec
def C03_end := C03_generic End.names End.types End.readPush Spec.endHdr Spec.fend end_ok end_spec

#print axioms C03_post
end Peppi
