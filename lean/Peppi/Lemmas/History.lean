import Peppi.Lemmas.FrameStepC
import Peppi.Lemmas.GeckoWrite
import Peppi.Lemmas.C08
import Peppi.Lemmas.GenFile
import Peppi.Lemmas.PortMap
/-! `Replay` is the abstract history the properties quantify over, `Replay.encodeAny` the recorder's canonical file of it,
    `Replay.WFAny` well-formedness; the framing regime follows from the version: `_A` ≥ 3.0, `_B` 2.2–2.x, `_C` < 2.2, `_G` ≥ 3.3
    with a Gecko block.  `…U` / `…S` / `…J`: ≥ 3.0 files with unknown events, any declared event stream, bytes after Game End. -/
namespace Peppi
open Extracted

structure Replay where
  startBlock : Bytes
  frames : List FrameOcc
  /-- payload of Game End -/
  fend : Option Bytes
  /-- the Game End event is written twice -/
  doubled : Bool
  metadata : Option KVs

/-- payload sizes the version prescribes, in the recorder's order -/
def canonTable (v : Ver) (startLen endLen : Nat) : List (Nat × Nat) :=
  [(EV_GAME_START, startLen), (EV_FRAME_PRE, 6 + rowSize v Pre.readPush), (EV_FRAME_POST, 6 + rowSize v Post.readPush),
   (EV_GAME_END, endLen), (EV_FRAME_START, 4 + rowSize v Start.readPush), (EV_ITEM, 4 + rowSize v Item.readPush),
   (EV_FRAME_END, 4 + rowSize v End.readPush)]

def Replay.endLen (r : Replay) (v : Ver) : Nat := match r.fend with | some e => e.length | none => endSize v

def Replay.endEvents (r : Replay) : List (Nat × Bytes) :=
  match r.fend with
  | some e => if r.doubled then [(EV_GAME_END, e), (EV_GAME_END, e)] else [(EV_GAME_END, e)]
  | none => []

/-- the `raw` element -/
def Replay.raw (r : Replay) (v : Ver) (shape : List PortOccupancy) : Bytes :=
  let t := canonTable v r.startBlock.length (r.endLen v)
  [0x35, UInt8.ofNat (3 * t.length + 1)] ++ encTable t ++ encEvent (EV_GAME_START, r.startBlock) ++
    encEvents (r.frames.flatMap (frameEventsA v shape)) ++ encEvents r.endEvents

def Replay.tail (r : Replay) : Bytes :=
  (match r.metadata with | some m => [0x55] ++ METADATA_KEY ++ encKVs m ++ [0x7d] | none => []) ++ [0x7d]

/-- the canonical file -/
def Replay.encode (r : Replay) (v : Ver) (shape : List PortOccupancy) : Bytes :=
  FILE_SIGNATURE ++ (toBE 4 (r.raw v shape).length ++ (r.raw v shape ++ r.tail))

/-- the game a well-formed replay denotes -/
def Replay.game (r : Replay) (s : Start) (ge : Option End) : Game :=
  { start := s, fend := ge, frames := expFrames s.version (portOccupancy s) r.frames, metadata := r.metadata, gecko := none,
    hashedLen := none, doubleGameEnd := if r.doubled then some true else none }

/-- what the skipping reader returns: same start, end and metadata, zero frames, no quirk -/
def Replay.gameSkip (r : Replay) (s : Start) (ge : End) : Game :=
  { start := s, fend := some ge, frames := FCols.new s.version (portOccupancy s), metadata := r.metadata, gecko := none,
    hashedLen := none, doubleGameEnd := none }

/-- ≥ 3.0 without a Gecko block.  `portMap` and `ports` follow from `start` (`WFAny.portMap`); `WFAny` does without them. -/
structure Replay.WF (T : TextOracle) (r : Replay) (s : Start) : Prop where
  start : gameStart T r.startBlock = .ok s
  v30 : s.version.gte 3 0 = true
  v22 : s.version.gte 2 2 = true
  startLen : 0 < r.startBlock.length ∧ r.startBlock.length < 65536
  portMap : PortMapOK (portIdxOf (portOccupancy s)) (portOccupancy s)
  ports : ∀ p ∈ portOccupancy s, p.port < 256
  frames : ∀ o ∈ r.frames, o.OK s.version (nSlots (portOccupancy s))
  endOK : ∀ e, r.fend = some e → 0 < e.length ∧ e.length < 65536 ∧ ∃ ge, gameEnd e = .ok ge
  endLenOK : 0 < r.endLen s.version ∧ r.endLen s.version < 65536
  doubledOK : r.doubled = true → ∃ e, r.fend = some e ∧ e.length = endSize s.version
  metadata : ∀ m, r.metadata = some m → KVs.WF T.utf8Ok 1 m
  rawLen : (r.raw s.version (portOccupancy s)).length < 256 ^ 4

def canonTableB (v : Ver) (startLen endLen : Nat) : List (Nat × Nat) :=
  [(EV_GAME_START, startLen), (EV_FRAME_PRE, 6 + rowSize v Pre.readPush), (EV_FRAME_POST, 6 + rowSize v Post.readPush),
   (EV_GAME_END, endLen), (EV_FRAME_START, 4 + rowSize v Start.readPush)]

def Replay.rawB (r : Replay) (v : Ver) (shape : List PortOccupancy) : Bytes :=
  let t := canonTableB v r.startBlock.length (r.endLen v)
  [0x35, UInt8.ofNat (3 * t.length + 1)] ++ encTable t ++ encEvent (EV_GAME_START, r.startBlock) ++
    encEvents (r.frames.flatMap (frameEventsB v shape)) ++ encEvents r.endEvents

def Replay.encodeB (r : Replay) (v : Ver) (shape : List PortOccupancy) : Bytes :=
  FILE_SIGNATURE ++ (toBE 4 (r.rawB v shape).length ++ (r.rawB v shape ++ r.tail))

structure Replay.WFB (T : TextOracle) (r : Replay) (s : Start) : Prop where
  start : gameStart T r.startBlock = .ok s
  v30 : s.version.gte 3 0 = false
  v22 : s.version.gte 2 2 = true
  startLen : 0 < r.startBlock.length ∧ r.startBlock.length < 65536
  portMap : PortMapOK (portIdxOf (portOccupancy s)) (portOccupancy s)
  ports : ∀ p ∈ portOccupancy s, p.port < 256
  frames : ∀ o ∈ r.frames, o.OK s.version (nSlots (portOccupancy s))
  endOK : ∀ e, r.fend = some e → 0 < e.length ∧ e.length < 65536 ∧ ∃ ge, gameEnd e = .ok ge
  endLenOK : 0 < r.endLen s.version ∧ r.endLen s.version < 65536
  doubledOK : r.doubled = true → ∃ e, r.fend = some e ∧ e.length = endSize s.version
  metadata : ∀ m, r.metadata = some m → KVs.WF T.utf8Ok 1 m
  rawLen : (r.rawB s.version (portOccupancy s)).length < 256 ^ 4

def canonTableC (v : Ver) (startLen endLen : Nat) : List (Nat × Nat) :=
  [(EV_GAME_START, startLen), (EV_FRAME_PRE, 6 + rowSize v Pre.readPush), (EV_FRAME_POST, 6 + rowSize v Post.readPush),
   (EV_GAME_END, endLen)]

def Replay.rawC (r : Replay) (v : Ver) (shape : List PortOccupancy) : Bytes :=
  let t := canonTableC v r.startBlock.length (r.endLen v)
  [0x35, UInt8.ofNat (3 * t.length + 1)] ++ encTable t ++ encEvent (EV_GAME_START, r.startBlock) ++
    encEvents (r.frames.flatMap (frameEventsC v shape)) ++ encEvents r.endEvents

def Replay.encodeC (r : Replay) (v : Ver) (shape : List PortOccupancy) : Bytes :=
  FILE_SIGNATURE ++ (toBE 4 (r.rawC v shape).length ++ (r.rawC v shape ++ r.tail))

structure Replay.WFC (T : TextOracle) (r : Replay) (s : Start) : Prop where
  start : gameStart T r.startBlock = .ok s
  v30 : s.version.gte 3 0 = false
  v22 : s.version.gte 2 2 = false
  seq : ∀ pre o post, r.frames = pre ++ o :: post →
    ((pre.map (·.id)).getLast?).getD (FIRST_INDEX - 1) + 1 = o.id ∧ presentFrom 0 o.chars ≠ []
  startLen : 0 < r.startBlock.length ∧ r.startBlock.length < 65536
  portMap : PortMapOK (portIdxOf (portOccupancy s)) (portOccupancy s)
  ports : ∀ p ∈ portOccupancy s, p.port < 256
  frames : ∀ o ∈ r.frames, o.OK s.version (nSlots (portOccupancy s))
  endOK : ∀ e, r.fend = some e → 0 < e.length ∧ e.length < 65536 ∧ ∃ ge, gameEnd e = .ok ge
  endLenOK : 0 < r.endLen s.version ∧ r.endLen s.version < 65536
  doubledOK : r.doubled = true → ∃ e, r.fend = some e ∧ e.length = endSize s.version
  metadata : ∀ m, r.metadata = some m → KVs.WF T.utf8Ok 1 m
  rawLen : (r.rawC s.version (portOccupancy s)).length < 256 ^ 4

/-- a block is the 512 data bytes of one message-splitter event and the number of them that count; `last` is marked final -/
structure GeckoBlocks where
  init : List (Bytes × Nat)
  last : Bytes × Nat

def GeckoBlocks.all (g : GeckoBlocks) : List (Bytes × Nat) := g.init ++ [g.last]
def GeckoBlocks.total (g : GeckoBlocks) : Nat := sumActual g.all
def GeckoBlocks.enc (g : GeckoBlocks) : Bytes := encBlocks g.init ++ encEvent (EV_SPLITTER, splitPayload g.last.1 g.last.2 true)

def canonTableG (v : Ver) (sl el total : Nat) : List (Nat × Nat) :=
  canonTable v sl el ++ [(EV_GECKO, total % 65536), (EV_SPLITTER, 516)]

def Replay.rawG (r : Replay) (v : Ver) (shape : List PortOccupancy) (gk : GeckoBlocks) : Bytes :=
  let t := canonTableG v r.startBlock.length (r.endLen v) gk.total
  [0x35, UInt8.ofNat (3 * t.length + 1)] ++ encTable t ++ encEvent (EV_GAME_START, r.startBlock) ++ gk.enc ++
    encEvents (r.frames.flatMap (frameEventsA v shape)) ++ encEvents r.endEvents

def Replay.encodeG (r : Replay) (v : Ver) (shape : List PortOccupancy) (gk : GeckoBlocks) : Bytes :=
  FILE_SIGNATURE ++ (toBE 4 (r.rawG v shape gk).length ++ (r.rawG v shape gk ++ r.tail))

structure Replay.WFG (T : TextOracle) (r : Replay) (s : Start) (gk : GeckoBlocks) : Prop where
  start : gameStart T r.startBlock = .ok s
  v30 : s.version.gte 3 0 = true
  v22 : s.version.gte 2 2 = true
  v33 : s.version.gte 3 3 = true
  startLen : 0 < r.startBlock.length ∧ r.startBlock.length < 65536
  portMap : PortMapOK (portIdxOf (portOccupancy s)) (portOccupancy s)
  ports : ∀ p ∈ portOccupancy s, p.port < 256
  frames : ∀ o ∈ r.frames, o.OK s.version (nSlots (portOccupancy s))
  endOK : ∀ e, r.fend = some e → 0 < e.length ∧ e.length < 65536 ∧ ∃ ge, gameEnd e = .ok ge
  endLenOK : 0 < r.endLen s.version ∧ r.endLen s.version < 65536
  doubledOK : r.doubled = true → ∃ e, r.fend = some e ∧ e.length = endSize s.version
  metadata : ∀ m, r.metadata = some m → KVs.WF T.utf8Ok 1 m
  full : ∀ b ∈ gk.init, FullBlock b
  lastOK : LastBlock gk.last
  totalNZ : 0 < gk.total % 65536
  totalLt : gk.total < 2 ^ 32
  rawLen : (r.rawG s.version (portOccupancy s) gk).length < 256 ^ 4

def Replay.gameG (r : Replay) (s : Start) (ge : Option End) (gk : GeckoBlocks) : Game :=
  { (r.game s ge) with gecko := some ⟨catData gk.all, gk.total⟩ }

/-- `ps0T` at `canonTableG` -/
def ps0G (r : Replay) (s : Start) (gk : GeckoBlocks) : ParseState :=
  let t := canonTableG s.version r.startBlock.length (r.endLen s.version) gk.total
  { st := { sizes := t.reverse, splitRaw := [], splitActual := 0, portIdx := portIdxOf (portOccupancy s), start := s,
            fend := none, frames := FCols.new s.version (portOccupancy s), metadata := none, gecko := none, doubleGameEnd := none },
    bytesRead := 1 + (3 * t.length + 1) + r.startBlock.length + 1 }

/-- extra payload-table entries for codes the library does not know -/
structure Unknowns where
  extra : List (Nat × Nat)
  /-- the event stream between Game Start and Game End: the canonical frame events with unknown events spliced in -/
  mixed : List (Nat × Bytes)

def canonTableU (v : Ver) (sl el : Nat) (u : Unknowns) : List (Nat × Nat) := canonTable v sl el ++ u.extra

def Replay.rawU (r : Replay) (v : Ver) (u : Unknowns) : Bytes :=
  let t := canonTableU v r.startBlock.length (r.endLen v) u
  [0x35, UInt8.ofNat (3 * t.length + 1)] ++ encTable t ++ encEvent (EV_GAME_START, r.startBlock) ++
    encEvents u.mixed ++ encEvents r.endEvents

def Replay.encodeU (r : Replay) (v : Ver) (u : Unknowns) : Bytes :=
  FILE_SIGNATURE ++ (toBE 4 (r.rawU v u).length ++ (r.rawU v u ++ r.tail))

structure Replay.WFU (T : TextOracle) (r : Replay) (s : Start) (u : Unknowns) : Prop where
  base : r.WF T s
  tableOK : TableOK (canonTableU s.version r.startBlock.length (r.endLen s.version) u)
  nodup : ((canonTableU s.version r.startBlock.length (r.endLen s.version) u).map Prod.fst).Nodup
  tableLen : 3 * (canonTableU s.version r.startBlock.length (r.endLen s.version) u).length + 1 < 256
  /-- erasing the unknown events gives the canonical frame events -/
  erase : u.mixed.filter (fun e => isKnown e.1) = r.frames.flatMap (frameEventsA s.version (portOccupancy s))
  /-- every unknown event is declared with its size -/
  declared : ∀ e ∈ u.mixed, isKnown e.1 = false → e.1 < 256 ∧ (e.1, e.2.length) ∈ u.extra
  rawLen : (r.rawU s.version u).length < 256 ^ 4

/-- `ps0T` at `canonTableU` -/
def ps0U (r : Replay) (s : Start) (u : Unknowns) : ParseState :=
  let t := canonTableU s.version r.startBlock.length (r.endLen s.version) u
  { st := { sizes := t.reverse, splitRaw := [], splitActual := 0, portIdx := portIdxOf (portOccupancy s), start := s,
            fend := none, frames := FCols.new s.version (portOccupancy s), metadata := none, gecko := none, doubleGameEnd := none },
    bytesRead := 1 + (3 * t.length + 1) + r.startBlock.length + 1 }

/-- what `readP_encode_stream` needs of the stream `u.mixed` -/
structure Replay.WFS (T : TextOracle) (r : Replay) (s : Start) (u : Unknowns) (F : FCols) : Prop where
  base : r.WF T s
  tableOK : TableOK (canonTableU s.version r.startBlock.length (r.endLen s.version) u)
  nodup : ((canonTableU s.version r.startBlock.length (r.endLen s.version) u).map Prod.fst).Nodup
  tableLen : 3 * (canonTableU s.version r.startBlock.length (r.endLen s.version) u).length + 1 < 256
  /-- every event of the stream is declared with its size and is neither a splitter nor Game End -/
  declared : ∀ e ∈ u.mixed, e.1 < 256 ∧ e.1 ≠ EV_SPLITTER ∧ e.1 ≠ EV_GAME_END ∧
    (e.1, e.2.length) ∈ canonTableU s.version r.startBlock.length (r.endLen s.version) u
  /-- the handler folds the stream to `F` -/
  run : runEvents (ps0U r s u).st u.mixed = .ok { (ps0U r s u).st with frames := F }
  rawLen : (r.rawU s.version u).length < 256 ^ 4

def Replay.gameF (r : Replay) (s : Start) (ge : Option End) (F : FCols) : Game := { (r.game s ge) with frames := F }

def Replay.rawJ (r : Replay) (v : Ver) (u : Unknowns) (junk : Bytes) : Bytes := r.rawU v u ++ junk
def Replay.encodeJ (r : Replay) (v : Ver) (u : Unknowns) (junk : Bytes) : Bytes :=
  FILE_SIGNATURE ++ (toBE 4 (r.rawJ v u junk).length ++ (r.rawJ v u junk ++ r.tail))

/-- the raw element of the recorder's canonical file for a history: the framing regime follows from the version,
    a Gecko block is present when given -/
def Replay.rawAny (r : Replay) (v : Ver) (shape : List PortOccupancy) : Option GeckoBlocks → Bytes
  | some g => r.rawG v shape g
  | none => if v.gte 3 0 then r.raw v shape else if v.gte 2 2 then r.rawB v shape else r.rawC v shape

/-- the canonical `.slp` file of a history -/
def Replay.encodeAny (r : Replay) (v : Ver) (shape : List PortOccupancy) : Option GeckoBlocks → Bytes
  | some g => r.encodeG v shape g
  | none => if v.gte 3 0 then r.encode v shape else if v.gte 2 2 then r.encodeB v shape else r.encodeC v shape

/-- the game the reader is expected to return -/
def Replay.gameAny (r : Replay) (s : Start) (ge : Option End) : Option GeckoBlocks → Game
  | some g => r.gameG s ge g
  | none => r.game s ge

/-- **Well-formed replay, any version.**  The start block is accepted by `game_start`; every frame occurrence has one
    (optional) character entry per occupied slot and payloads of the sizes the version prescribes; below 2.2 (no
    Frame Start events) ids run consecutively from −123 and every frame has at least one character; the start block and the
    Game End block are non-empty and shorter than 2^16 bytes (sizes are u16 in the payload table); Game End is
    absent, single or doubled-identical and accepted by `game_end`; metadata is absent or a well-formed tree; a Gecko
    block needs version ≥ 3.3, full non-final blocks, a last block of 1..512 bytes and a total that is non-zero
    mod 2^16; the raw element is shorter than 2^32 bytes. -/
structure Replay.WFAny (T : TextOracle) (r : Replay) (s : Start) (gk : Option GeckoBlocks) : Prop where
  start : gameStart T r.startBlock = .ok s
  startLen : 0 < r.startBlock.length ∧ r.startBlock.length < 65536
  frames : ∀ o ∈ r.frames, o.OK s.version (nSlots (portOccupancy s))
  seq : s.version.gte 2 2 = false → ∀ pre o post, r.frames = pre ++ o :: post →
    ((pre.map (·.id)).getLast?).getD (FIRST_INDEX - 1) + 1 = o.id ∧ presentFrom 0 o.chars ≠ []
  endOK : ∀ e, r.fend = some e → 0 < e.length ∧ e.length < 65536 ∧ ∃ ge, gameEnd e = .ok ge
  endLenOK : 0 < r.endLen s.version ∧ r.endLen s.version < 65536
  doubledOK : r.doubled = true → ∃ e, r.fend = some e ∧ e.length = endSize s.version
  metadata : ∀ m, r.metadata = some m → KVs.WF T.utf8Ok 1 m
  gecko : ∀ g, gk = some g → s.version.gte 3 3 = true ∧ (∀ b ∈ g.init, FullBlock b) ∧ LastBlock g.last ∧
    0 < g.total % 65536 ∧ g.total < 2 ^ 32
  rawLen : (r.rawAny s.version (portOccupancy s) gk).length < 256 ^ 4

/-- the recorder's frame events for a history, by framing regime -/
def canonEventsAny (v : Ver) (shape : List PortOccupancy) (frames : List FrameOcc) : List (Nat × Bytes) :=
  if v.gte 3 0 then frames.flatMap (frameEventsA v shape)
  else if v.gte 2 2 then frames.flatMap (frameEventsB v shape)
  else frames.flatMap (frameEventsC v shape)

/-- the payload table the version prescribes (with the Gecko entries when a Gecko block is present) -/
def canonTableAny (v : Ver) (sl el : Nat) : Option GeckoBlocks → List (Nat × Nat)
  | some g => canonTableG v sl el g.total
  | none => if v.gte 3 0 then canonTable v sl el else if v.gte 2 2 then canonTableB v sl el else canonTableC v sl el

/-! ### The regime files and the `…Any` forms -/

theorem Replay.rawAny_eq (r : Replay) (v : Ver) (shape : List PortOccupancy) (gk : Option GeckoBlocks)
    (hg : ∀ g, gk = some g → v.gte 3 0 = true) :
    r.rawAny v shape gk =
      tablePrefix (canonTableAny v r.startBlock.length (r.endLen v) gk) ++ (encEvent (EV_GAME_START, r.startBlock) ++
        ((gk.map GeckoBlocks.enc).getD [] ++ (encEvents (canonEventsAny v shape r.frames) ++ encEvents r.endEvents))) := by
  cases gk with
  | some g => simp [Replay.rawAny, Replay.rawG, canonTableAny, canonEventsAny, tablePrefix, hg g rfl]
  | none =>
    cases h30 : v.gte 3 0
    · cases h22 : v.gte 2 2 <;> simp [Replay.rawAny, Replay.rawB, Replay.rawC, canonTableAny, canonEventsAny, tablePrefix, h30, h22]
    · simp [Replay.rawAny, Replay.raw, canonTableAny, canonEventsAny, tablePrefix, h30]

theorem Replay.rawAny_length (r : Replay) (v : Ver) (shape : List PortOccupancy) (gk : Option GeckoBlocks)
    (hg : ∀ g, gk = some g → v.gte 3 0 = true) :
    (r.rawAny v shape gk).length =
      2 + 3 * (canonTableAny v r.startBlock.length (r.endLen v) gk).length + (1 + r.startBlock.length) +
        ((gk.map GeckoBlocks.enc).getD []).length + (encEvents (canonEventsAny v shape r.frames)).length +
        (encEvents r.endEvents).length := by
  rw [r.rawAny_eq v shape gk hg]
  simp only [tablePrefix, List.length_append, List.length_cons, List.length_nil, encTable_length, encEvent]
  omega

theorem Replay.tail_eq (r : Replay) : r.tail = metaBytes r.metadata := rfl

theorem Replay.encodeAny_eq (r : Replay) (v : Ver) (shape : List PortOccupancy) (gk : Option GeckoBlocks) :
    r.encodeAny v shape gk = FILE_SIGNATURE ++ (toBE 4 (r.rawAny v shape gk).length ++ (r.rawAny v shape gk ++ r.tail)) := by
  cases gk with
  | some g => rfl
  | none =>
    simp only [Replay.encodeAny, Replay.rawAny]
    split
    · rfl
    · split <;> rfl

theorem Replay.gameAny_eq (r : Replay) (s : Start) (ge : Option End) (gk : Option GeckoBlocks) :
    r.gameAny s ge gk =
      { start := s, fend := ge, frames := expFrames s.version (portOccupancy s) r.frames, metadata := r.metadata,
        gecko := gk.map fun g => ⟨catData g.all, g.total⟩, hashedLen := none,
        doubleGameEnd := if r.doubled then some true else none } := by
  cases gk <;> rfl

section
variable {T : TextOracle} {r : Replay} {s : Start}

theorem Replay.WF.toAny (h : r.WF T s) : r.WFAny T s none where
  start := h.start
  startLen := h.startLen
  frames := h.frames
  seq := fun h22 => by rw [h.v22] at h22; cases h22
  endOK := h.endOK
  endLenOK := h.endLenOK
  doubledOK := h.doubledOK
  metadata := h.metadata
  gecko := nofun
  rawLen := by simpa [Replay.rawAny, h.v30] using h.rawLen

theorem Replay.WFB.toAny (h : r.WFB T s) : r.WFAny T s none where
  start := h.start
  startLen := h.startLen
  frames := h.frames
  seq := fun h22 => by rw [h.v22] at h22; cases h22
  endOK := h.endOK
  endLenOK := h.endLenOK
  doubledOK := h.doubledOK
  metadata := h.metadata
  gecko := nofun
  rawLen := by simpa [Replay.rawAny, h.v30, h.v22] using h.rawLen

theorem Replay.WFC.toAny (h : r.WFC T s) : r.WFAny T s none where
  start := h.start
  startLen := h.startLen
  frames := h.frames
  seq := fun _ => h.seq
  endOK := h.endOK
  endLenOK := h.endLenOK
  doubledOK := h.doubledOK
  metadata := h.metadata
  gecko := nofun
  rawLen := by simpa [Replay.rawAny, h.v30, h.v22] using h.rawLen

/-- the regime's file is `encodeAny` at that regime (with a Gecko block by `rfl`) -/
theorem Replay.WF.encodeAny_eq (h : r.WF T s) (shape : List PortOccupancy) :
    r.encodeAny s.version shape none = r.encode s.version shape := by simp only [Replay.encodeAny, h.v30, ↓reduceIte]
theorem Replay.WFB.encodeAny_eq (h : r.WFB T s) (shape : List PortOccupancy) :
    r.encodeAny s.version shape none = r.encodeB s.version shape := by
  simp only [Replay.encodeAny, h.v30, h.v22, ↓reduceIte, Bool.false_eq_true]
theorem Replay.WFC.encodeAny_eq (h : r.WFC T s) (shape : List PortOccupancy) :
    r.encodeAny s.version shape none = r.encodeC s.version shape := by
  simp only [Replay.encodeAny, h.v30, h.v22, ↓reduceIte, Bool.false_eq_true]

theorem Replay.WFG.toAny {g : GeckoBlocks} (h : r.WFG T s g) : r.WFAny T s (some g) where
  start := h.start
  startLen := h.startLen
  frames := h.frames
  seq := fun h22 => by rw [h.v22] at h22; cases h22
  endOK := h.endOK
  endLenOK := h.endLenOK
  doubledOK := h.doubledOK
  metadata := h.metadata
  gecko := by rintro _ ⟨⟩; exact ⟨h.v33, h.full, h.lastOK, h.totalNZ, h.totalLt⟩
  rawLen := h.rawLen

end

/-- the file of a history in the general shape: payload table `t`, middle `mid`, and either the duplicated Game End or
    the bytes `junk` between Game End and the declared end of the raw element (to `read` a second Game End is extra
    bytes that look like one: `dgeOf`) -/
def Replay.gfile (r : Replay) (t : List (Nat × Nat)) (mid junk : Bytes) : GFile :=
  { table := t
    startBlock := r.startBlock
    mid := mid
    fend := r.fend
    extra := if r.doubled then (match r.fend with | some e => encEvent (EV_GAME_END, e) | none => []) else junk
    metadata := r.metadata }

theorem Replay.gfile_endPart (r : Replay) (t : List (Nat × Nat)) (mid junk : Bytes)
    (hd : r.doubled = true → (∃ e, r.fend = some e) ∧ junk = []) :
    (r.gfile t mid junk).endPart = encEvents r.endEvents ++ junk := by
  cases hdb : r.doubled with
  | false => cases hf : r.fend <;> simp [GFile.endPart, Replay.gfile, Replay.endEvents, hdb, hf, encEvents_cons, encEvents_nil]
  | true =>
    obtain ⟨⟨e, hf⟩, rfl⟩ := hd hdb
    simp [GFile.endPart, Replay.gfile, Replay.endEvents, hdb, hf, encEvents_cons, encEvents_nil]

/-- the canonical file in the general shape: the version's table; the Gecko block and the recorder's frame events as the
    middle; nothing behind Game End -/
def Replay.gfileCanon (r : Replay) (v : Ver) (shape : List PortOccupancy) (gk : Option GeckoBlocks) : GFile :=
  r.gfile (canonTableAny v r.startBlock.length (r.endLen v) gk)
    ((gk.map GeckoBlocks.enc).getD [] ++ encEvents (canonEventsAny v shape r.frames)) []

section
variable (r : Replay) {v : Ver} (shape : List PortOccupancy) {gk : Option GeckoBlocks}
  (hg : ∀ g, gk = some g → v.gte 3 0 = true) (hd : r.doubled = true → ∃ e, r.fend = some e)
include hg hd

theorem Replay.gfileCanon_raw : (r.gfileCanon v shape gk).raw = r.rawAny v shape gk := by
  rw [GFile.raw, Replay.gfileCanon, r.gfile_endPart _ _ [] fun h => ⟨hd h, rfl⟩, r.rawAny_eq v shape gk hg, List.append_nil]
  simp only [Replay.gfile, List.append_assoc]

theorem Replay.gfileCanon_encode : (r.gfileCanon v shape gk).encode = r.encodeAny v shape gk := by
  rw [GFile.encode, r.gfileCanon_raw shape hg hd, r.encodeAny_eq, r.tail_eq]
  rfl

end

/-! ### What follows from `WFAny` -/

section
variable {T : TextOracle} {r : Replay} {s : Start} {gk : Option GeckoBlocks} (h : r.WFAny T s gk)
include h

theorem Replay.WFAny.gecko30 (g : GeckoBlocks) (hg : gk = some g) : s.version.gte 3 0 = true :=
  Ver.gte_trans _ 3 3 3 0 (by omega) (h.gecko g hg).1

theorem Replay.WFAny.none_of_lt30 (h30 : ¬ s.version.gte 3 0 = true) : gk = none := by
  cases gk with
  | none => rfl
  | some g => exact absurd (h.gecko30 g rfl) h30

theorem Replay.WFAny.portMap : PortMapOK (portIdxOf (portOccupancy s)) (portOccupancy s) ∧ ∀ p ∈ portOccupancy s, p.port < 256 :=
  portMap_of_gameStart T r.startBlock s h.start

theorem Replay.WFAny.doubled_fend (hd : r.doubled = true) : ∃ e, r.fend = some e :=
  (h.doubledOK hd).imp fun _ => And.left

/-- what Game End parses to: nothing when it is absent, otherwise what `game_end` makes of the block -/
theorem Replay.WFAny.parsedEnd : ∃ ge : Option End, r.fend.map gameEnd = ge.map Res.ok := by
  cases hf : r.fend with
  | none => exact ⟨none, rfl⟩
  | some e =>
    obtain ⟨ge, hge⟩ := (h.endOK e hf).2.2
    exact ⟨some ge, congrArg some hge⟩

end

end Peppi
