import Peppi.Lemmas.ByteLayer
/-! Stage lemmas for the file prefix: container header, payload-size table, Game Start. -/
namespace Peppi

theorem expectBytes_ok (e rest : Bytes) : expectBytes e (e ++ rest) = .ok ((), rest) := by
  simp [expectBytes, bind, Rd.take_append e rest rfl, pure]

theorem parseHeader_enc (n : Nat) (hn : n < 256 ^ 4) (rest : Bytes) :
    parseHeader (FILE_SIGNATURE ++ (toBE 4 n ++ rest)) = .ok (n, rest) := by
  simp only [parseHeader, bind, expectBytes_ok, Rd.be, Rd.take_append _ rest (toBE_length 4 n), pure, fromBE_toBE _ _ hn]

/-- one payload-table entry: code, size (u16 BE) -/
def encEntry (e : Nat × Nat) : Bytes := [UInt8.ofNat e.1, UInt8.ofNat (e.2 / 256), UInt8.ofNat (e.2 % 256)]
def encTable (t : List (Nat × Nat)) : Bytes := t.flatMap encEntry

def TableOK (t : List (Nat × Nat)) : Prop := ∀ e ∈ t, e.1 < 256 ∧ 0 < e.2 ∧ e.2 < 65536

theorem encTable_cons (e : Nat × Nat) (es : List (Nat × Nat)) :
    encTable (e :: es) = UInt8.ofNat e.1 :: UInt8.ofNat (e.2 / 256) :: UInt8.ofNat (e.2 % 256) :: encTable es := rfl

theorem payloadTriples_enc (t : List (Nat × Nat)) (ht : TableOK t) (acc : List (Nat × Nat)) :
    payloadTriples (encTable t) acc = .ok (t.reverse ++ acc) := by
  induction t generalizing acc with
  | nil => rfl
  | cons e es ih =>
    obtain ⟨h1, h2, h3⟩ := ht e (by simp)
    have ha : (UInt8.ofNat e.1).toNat = e.1 := UInt8.toNat_ofNat_of_lt' h1
    have hb : (UInt8.ofNat (e.2 / 256)).toNat = e.2 / 256 := UInt8.toNat_ofNat_of_lt' (Nat.div_lt_of_lt_mul h3)
    have hc : (UInt8.ofNat (e.2 % 256)).toNat = e.2 % 256 := UInt8.toNat_ofNat_of_lt' (Nat.mod_lt _ (by decide))
    have hsz : e.2 / 256 * 256 + e.2 % 256 = e.2 := Nat.div_add_mod' e.2 256
    have hne : e.2 ≠ 0 := Nat.ne_of_gt h2
    have hes : TableOK es := fun e' he' => ht e' (List.mem_cons_of_mem _ he')
    rw [encTable_cons, payloadTriples, ha, hb, hc, hsz, if_neg hne, ih hes, List.reverse_cons, List.append_assoc]
    rfl

theorem encTable_length (t : List (Nat × Nat)) : (encTable t).length = 3 * t.length := by
  induction t with
  | nil => rfl
  | cons e es ih =>
    simp only [encTable_cons, List.length_cons, ih]
    omega

/-- the reader's table is the file's in reverse (`payloadTriples` conses as it reads); with distinct codes the lookup finds the
    same entry -/
theorem sizeOfEv_reverse (t : List (Nat × Nat)) (hnd : (t.map Prod.fst).Nodup) (c s : Nat) (hmem : (c, s) ∈ t) :
    sizeOfEv t.reverse c = some s := by
  obtain ⟨a, b, rfl⟩ := List.append_of_mem hmem
  -- nothing behind `(c, s)` has code `c`, so coming from the back `(c, s)` is the first hit
  have hb : ∀ x ∈ b.reverse, ¬ (x.1 == c) = true := by
    intro x hx he
    simp only [List.map_append, List.map_cons, List.nodup_append, List.nodup_cons, List.mem_map] at hnd
    exact hnd.2.1.1 ⟨x, List.mem_reverse.mp hx, beq_iff_eq.mp he⟩
  rw [sizeOfEv, List.reverse_append, List.reverse_cons, List.append_assoc, List.find?_append,
    List.find?_eq_none.mpr hb]
  simp

theorem sizeOfEv_mem_of_some (t : List (Nat × Nat)) (c s : Nat) (h : sizeOfEv t c = some s) : (c, s) ∈ t := by
  obtain ⟨e, hf, rfl⟩ := Option.map_eq_some_iff.mp h
  obtain rfl : e.1 = c := eq_of_beq (List.find?_some hf :)
  exact List.mem_of_find?_eq_some hf

theorem sizeOfEv_none (t : List (Nat × Nat)) (c : Nat) (h : ∀ e ∈ t, e.1 ≠ c) : sizeOfEv t.reverse c = none := by
  rw [sizeOfEv, List.find?_eq_none.mpr fun x hx => by simpa using h x (List.mem_reverse.mp hx)]
  rfl

theorem parsePayloads_enc (t : List (Nat × Nat)) (ht : TableOK t) (hlen : 3 * t.length + 1 < 256)
    (hnd : (t.map Prod.fst).Nodup) (ss se : Nat) (hs : (EV_GAME_START, ss) ∈ t) (he : (EV_GAME_END, se) ∈ t) (rest : Bytes) :
    parsePayloads ([0x35, UInt8.ofNat (3 * t.length + 1)] ++ encTable t ++ rest) = .ok ((1 + (3 * t.length + 1), t.reverse), rest) := by
  -- the checks in the parser's order.  The command byte is 0x35; the size byte is read back (`hlen`)
  simp only [parsePayloads, bind, Rd.u8, List.cons_append, List.nil_append, UInt8.reduceToNat, EV_PAYLOADS, ne_eq,
    not_true_eq_false, ↓reduceIte, UInt8.toNat_ofNat_of_lt' hlen]
  -- the size is ≡ 1 mod 3, and the `3 * t.length` bytes of the table are there
  simp only [Nat.mul_add_mod, not_true_eq_false, ↓reduceIte, Nat.add_sub_cancel, Rd.take_append _ rest (encTable_length t)]
  -- the triples give the table, reversed; Game Start and Game End are declared in it
  simp only [Rd.lift, payloadTriples_enc t ht [], List.append_nil, sizeOfEv_reverse t hnd _ _ hs, sizeOfEv_reverse t hnd _ _ he,
    Option.isNone_some, Bool.false_eq_true, ↓reduceIte, pure]

#print axioms parsePayloads_enc
end Peppi
