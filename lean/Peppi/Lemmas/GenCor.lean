import Peppi.Lemmas.Unified
/-! C08 and C17 for every version: consequences of `readP_irregular`, `C04_any` and `write_game_any`. -/
namespace Peppi
open Extracted

/-- **C08 (unknown events, bytes after Game End), every version**: a replay that is well-formed up to tolerated irregularities
    is read to exactly the game of the canonical file of the same history: declared unknown events are skipped wherever and however
    often they occur (after the Gecko block), bytes between Game End and the declared end of the raw element are ignored. -/
theorem C08_any (T : TextOracle) (r : Replay) (s : Start) (gk : Option GeckoBlocks) (i : Irr) (h : i.OK T r s gk) :
    readSlp T { skipFrames := false, computeHash := false } (r.fileIrr s gk i).encode =
      readSlp T { skipFrames := false, computeHash := false } (r.encodeAny s.version (portOccupancy s) gk) := by
  obtain ⟨ge, hge, hU⟩ := readP_irregular T r s gk i h
  rw [readSlp_full_any h.base hge false]
  exact readSlp_of_readP hU false

/-- the canonical file declares, in its header, the actual length of its raw element (every regime) -/
theorem encodeAny_declares_actual (r : Replay) (v : Ver) (shape : List PortOccupancy) (gk : Option GeckoBlocks) :
    ∃ rest, r.encodeAny v shape gk = FILE_SIGNATURE ++ (toBE 4 (r.rawAny v shape gk).length ++ (r.rawAny v shape gk ++ rest)) :=
  ⟨r.tail, r.encodeAny_eq v shape gk⟩

theorem C17_irregular (T : TextOracle) (r : Replay) (s : Start) (gk : Option GeckoBlocks) (i : Irr) (h : i.OK T r s gk)
    (hmax : assertMaxVersion s.version = .ok ()) :
    ∃ g, readSlp T { skipFrames := false, computeHash := false } (r.fileIrr s gk i).encode = .ok g ∧
      writeSlp g = .ok (r.encodeAny s.version (portOccupancy s) gk) ∧
      readSlp T { skipFrames := false, computeHash := false } (r.encodeAny s.version (portOccupancy s) gk) = .ok g := by
  obtain ⟨g, hread, hwrite⟩ := C01_any T r s gk h.base hmax
  exact ⟨g, (C08_any T r s gk i h).trans hread, hwrite, hread⟩

/-- **C17, every version ≤ the maximum.**  A replay that is well-formed up to tolerated irregularities (unknown events, bytes
    after Game End, Game End or metadata missing) is accepted; writing the game gives the canonical file of the history, whose
    declared raw length is the actual one; that file reads to the same game again, and writing the re-read game reproduces it. -/
theorem C17_any (T : TextOracle) (r : Replay) (s : Start) (gk : Option GeckoBlocks) (i : Irr) (h : i.OK T r s gk)
    (hmax : assertMaxVersion s.version = .ok ()) :
    ∃ g y, readSlp T { skipFrames := false, computeHash := false } (r.fileIrr s gk i).encode = .ok g ∧
      writeSlp g = .ok y ∧
      (∃ raw rest, y = FILE_SIGNATURE ++ (toBE 4 raw.length ++ (raw ++ rest)) ∧ raw.length < 256 ^ 4) ∧
      readSlp T { skipFrames := false, computeHash := false } y = .ok g ∧
      (∀ g', readSlp T { skipFrames := false, computeHash := false } y = .ok g' → writeSlp g' = .ok y) := by
  obtain ⟨g, hread, hwrite, hreread⟩ := C17_irregular T r s gk i h hmax
  obtain ⟨rest, hfile⟩ := encodeAny_declares_actual r s.version (portOccupancy s) gk
  have hfix : ∀ g', readSlp T { skipFrames := false, computeHash := false } (r.encodeAny s.version (portOccupancy s) gk) = .ok g' →
      writeSlp g' = .ok (r.encodeAny s.version (portOccupancy s) gk) := by
    intro g' hg'
    rw [hreread] at hg'
    cases hg'
    exact hwrite
  exact ⟨g, _, hread, hwrite, ⟨_, rest, hfile, h.base.rawLen⟩, hreread, hfix⟩

#print axioms C08_any
#print axioms C17_any
end Peppi
