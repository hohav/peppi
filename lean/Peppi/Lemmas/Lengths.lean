import Peppi.Lemmas.Canon
/-! C04, last sentence: *every column of every port, and the start/end columns, have exactly one entry per frame row* — for the
    columns the reader returns for a well-formed replay (`expFrames`, by `C04_any`). -/
namespace Peppi
open Extracted

/-- a character's columns all have `n` entries (pre, post, and the validity bitmap when there is one) -/
def DCols.LenIs (d : DCols) (n : Nat) : Prop :=
  d.pre.length = n ∧ d.post.length = n ∧ ∀ b, d.valid = some b → b.length = n

theorem colsOf_lenIs (hist : List (Option CharOcc)) : (colsOf hist).LenIs hist.length :=
  ⟨by simp [colsOf], by simp [colsOf], fun b hb => by rw [valid_colsOf hb, List.length_map]⟩

/-- **C04 (column lengths)**: in the columns of a history, the id column has one entry per frame occurrence; so have the start
    and end columns and every pre / post column and validity bitmap of every port's leader and follower; the item offsets have
    one more; there is one port entry per occupied port -/
theorem expFrames_lengths (v : Ver) (shape : List PortOccupancy) (h : List FrameOcc) :
    let F := expFrames v shape h
    F.id.length = h.length ∧
    (∀ sc, F.start = some sc → sc.length = h.length) ∧
    (∀ ec, F.fend = some ec → ec.length = h.length) ∧
    (∀ o, F.itemOff = some o → o.length = h.length + 1) ∧
    (∀ it, F.item = some it → it.length = (h.flatMap (·.items)).length) ∧
    F.ports.length = shape.length ∧
    (∀ p ∈ F.ports, p.leader.LenIs h.length ∧ ∀ f, p.follower = some f → f.LenIs h.length) := by
  intro F
  -- a column behind a version gate, when it is there, is the list under the gate
  have hcol : ∀ {α : Type} (c : Bool) (l x : List α), (if c = true then some l else none) = some x → x.length = l.length := by
    intro α c l x hx
    obtain ⟨_, rfl⟩ := Option.ite_some_none_eq_some.mp hx
    rfl
  have hall : ∀ d ∈ flatSlots (expPorts shape h), d.LenIs h.length := by
    rw [(expPorts_shape shape h).2]
    intro d hd
    obtain ⟨c, _, rfl⟩ := List.mem_map.mp hd
    simpa [histAt] using colsOf_lenIs (histAt h c)
  have hports : ∀ p ∈ F.ports, p.leader.LenIs h.length ∧ ∀ f, p.follower = some f → f.LenIs h.length :=
    fun p hp => ⟨hall _ (mem_flatSlots hp).1, fun f hf => hall _ ((mem_flatSlots hp).2 f hf)⟩
  refine ⟨List.length_map _, ?_, ?_, ?_, ?_, ?_, hports⟩
  · intro sc hsc
    rw [hcol _ _ _ hsc, List.length_map]
  · intro ec hec
    rw [hcol _ _ _ hec, List.length_map]
  · intro o ho
    rw [hcol _ _ _ ho, offsOf, List.length_map, List.length_range]
  · intro it hit
    rw [hcol _ _ _ hit, List.length_map]
  · show (expPorts shape h).length = _
    rw [← shapeOf_length, (expPorts_shape shape h).1]

/-- the same for what the reader returns on the canonical file of any well-formed replay -/
theorem C04_lengths (T : TextOracle) (r : Replay) (s : Start) (gk : Option GeckoBlocks) (h : r.WFAny T s gk) :
    ∃ g rest, readP T {} (r.encodeAny s.version (portOccupancy s) gk) = .ok (g, rest) ∧
      g.frames.id.length = r.frames.length ∧ g.frames.ports.length = (portOccupancy s).length ∧
      (∀ p ∈ g.frames.ports, p.leader.LenIs r.frames.length ∧ ∀ f, p.follower = some f → f.LenIs r.frames.length) ∧
      (∀ sc, g.frames.start = some sc → sc.length = r.frames.length) ∧ (∀ ec, g.frames.fend = some ec → ec.length = r.frames.length) ∧
      (∀ o, g.frames.itemOff = some o → o.length = r.frames.length + 1) := by
  obtain ⟨ge, _, hread⟩ := C04_any T r s gk h
  obtain ⟨l1, l2, l3, l4, _, l6, l7⟩ := expFrames_lengths s.version (portOccupancy s) r.frames
  rw [Replay.gameAny_eq] at hread
  exact ⟨_, _, hread, l1, l6, l7, l2, l3, l4⟩

#print axioms expFrames_lengths
#print axioms C04_lengths
end Peppi
