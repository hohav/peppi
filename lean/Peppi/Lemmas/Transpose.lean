import Peppi.Arrow
/-! Rows ↔ columns for one generated struct: the core of C13 (row view = columns at the same index) and of C14
    (`from_struct_array ∘ into_struct_array = id`, insensitive to the validity normalisation Arrow IPC performs). -/
namespace Peppi

/-- the primitive columns of a struct with `n` visible leaves (null slots hold 0, as `push_null` stores `T::default()`) -/
def toCols (n : Nat) (rows : SCols) : List (List Nat) := (List.range n).map (leafCol rows)

/-- rebuild the rows from columns and a validity bitmap (`None` = all valid) -/
def fromCols (len : Nat) (cols : List (List Nat)) (valid : Option (List Bool)) : SCols :=
  (List.range len).map fun i =>
    if (match valid with | none => true | some bs => bs.getD i true) then some (cols.map fun c => c.getD i 0) else none

/-- all present rows have exactly `n` values -/
def RowsOK (n : Nat) (rows : SCols) : Prop := ∀ r ∈ rows, ∀ vs, r = some vs → vs.length = n

theorem RowsOK_map {α} (n : Nat) (l : List α) (f : α → Option (List Nat))
    (h : ∀ a ∈ l, ∀ vs, f a = some vs → vs.length = n) : RowsOK n (l.map f) := by
  intro r hr vs hvs
  obtain ⟨a, ha, rfl⟩ := List.mem_map.mp hr
  exact h a ha vs hvs

theorem leafCol_getD (rows : SCols) (k i : Nat) (hi : i < rows.length) :
    (leafCol rows k).getD i 0 = match rows[i] with | some vs => vs.getD k 0 | none => 0 := by
  simp only [leafCol, List.getD_eq_getElem?_getD, List.getElem?_map, List.getElem?_eq_getElem hi, Option.map_some, Option.getD_some]
  cases rows[i] <;> rfl

/-- **C13 core**: the row view at index `i` is the `i`-th entry of every column -/
theorem toCols_row (n : Nat) (rows : SCols) (hok : RowsOK n rows) (i : Nat) (hi : i < rows.length) (vs : List Nat)
    (hr : rows[i] = some vs) : (toCols n rows).map (fun c => c.getD i 0) = vs := by
  have hl : vs.length = n := hok _ (List.getElem_mem hi) vs hr
  apply List.ext_getElem
  · simp only [toCols, List.length_map, List.length_range, hl]
  · intro k h1 h2
    simp only [toCols, List.map_map, List.getElem_map, List.getElem_range, Function.comp]
    rw [leafCol_getD rows k i hi, hr]
    exact (List.getElem_eq_getD 0).symm

theorem validOfRows_getD (rows : SCols) (i : Nat) (hi : i < rows.length) :
    (match validOfRows rows with | none => true | some bs => bs.getD i true) = rows[i].isSome := by
  unfold validOfRows
  by_cases hall : rows.all Option.isSome = true
  · simp only [hall, ↓reduceIte]
    exact (List.all_eq_true.mp hall rows[i] (List.getElem_mem hi)).symm
  · simp only [hall, Bool.false_eq_true, ↓reduceIte, List.getD_eq_getElem?_getD, List.getElem?_map,
      List.getElem?_eq_getElem hi, Option.map_some, Option.getD_some]

/-- **C14 core**: columns + lazily created validity determine the rows -/
theorem fromCols_toCols (n : Nat) (rows : SCols) (hok : RowsOK n rows) :
    fromCols rows.length (toCols n rows) (validOfRows rows) = rows := by
  apply List.ext_getElem
  · simp only [fromCols, List.length_map, List.length_range]
  · intro i h1 h2
    simp only [fromCols, List.getElem_map, List.getElem_range]
    rw [validOfRows_getD rows i h2]
    cases hr : rows[i] with
    | none => rfl
    | some vs => rw [Option.isSome_some, if_pos rfl, toCols_row n rows hok i h2 vs hr]

/-- Arrow IPC drops an all-set validity bitmap: the import does not notice -/
theorem fromCols_allset (len : Nat) (cols : List (List Nat)) :
    fromCols len cols (some (List.replicate len true)) = fromCols len cols none := by
  have (i : Nat) : (List.replicate len true).getD i true = true := by
    rw [List.getD_eq_getElem?_getD, List.getElem?_replicate]
    split <;> rfl
  simp only [fromCols, this]

#print axioms fromCols_toCols
end Peppi
