import Peppi.Lemmas.Slots
/-! C17, the key lemma, on abstract character events. -/
namespace Peppi

/-- **order-independence across characters**: equal projections onto every character slot (so any permutation that keeps
    each character's own events in order) give the same columns -/
theorem runChars_perm (cs : List DCols) (es es' : List CEv)
    (hproj : ∀ c, es'.filter (·.target == c) = es.filter (·.target == c))
    (ht : ∀ e ∈ es, e.target < cs.length) : runChars cs es' = runChars cs es := by
  -- an event of `es'` is in its own projection, hence in `es`
  have ht' : ∀ e ∈ es', e.target < cs.length := by
    intro e he
    have hmem : e ∈ es'.filter (·.target == e.target) := List.mem_filter.mpr ⟨he, by simp⟩
    rw [hproj] at hmem
    exact ht e (List.mem_filter.mp hmem).1
  rw [runChars_eq cs es ht, runChars_eq cs es' ht']
  simp only [hproj]

#print axioms runChars_perm

/-- non-vacuity: swapping two events aimed at different characters satisfies the hypothesis -/
example (a b : CEv) (hab : a.target ≠ b.target) (rest : List CEv) (c : Nat) :
    (b :: a :: rest).filter (·.target == c) = (a :: b :: rest).filter (·.target == c) := by
  by_cases ha : a.target = c <;> by_cases hb : b.target = c
  · exact absurd (ha.trans hb.symm) hab
  · have : (b.target == c) = false := by simpa using hb
    simp [ha, this]
  · have : (a.target == c) = false := by simpa using ha
    simp [hb, this]
  · have h1 : (a.target == c) = false := by simpa using ha
    have h2 : (b.target == c) = false := by simpa using hb
    simp [h1, h2]
end Peppi
