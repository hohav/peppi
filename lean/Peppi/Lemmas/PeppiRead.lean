import Peppi.Lemmas.ArrowStream
import Peppi.Start
import Peppi.Cols
/-! `.slpp` reader (io/peppi/de.rs, repaired) over an abstract archive: the tar entries in order, each already passed through
    the external decoder it is handed to (serde_json, the Arrow IPC stream reader), plus whether the second end-of-archive
    block is present.  What the externals do with bytes is a parameter; what `read` does with their results is modelled. -/
namespace Peppi

structure PeppiMeta where
  versionOk : Bool                 -- `assert_current_version`
  hash : Option String
  quirks : Option Bool

/-- one tar entry, by the name `read` dispatches on -/
inductive PEntry (μ φ : Type) where
  | peppiJson (r : Res PeppiMeta)          -- `serde_json::from_reader::<Peppi>`
  | startRaw (bytes : Bytes)
  | endRaw (bytes : Bytes)
  | metadataJson (r : Res (Option μ))      -- `read_peppi_metadata`: object ↦ some, null ↦ none, else error
  | geckoRaw (bytes : Bytes)
  | framesArrow (magicOk : Bool) (items : List (SItem φ))
  | other                                   -- any other file name: skipped
  | broken                                  -- the tar iterator yields an error for this entry

structure PAcc (μ : Type) where
  peppi : Option PeppiMeta := none
  start : Option Start := none
  fend : Option End := none
  metadata : Option μ := none
  gecko : Option (Bytes × Nat) := none

structure PGame (μ φ : Type) where
  start : Start
  fend : Option End
  metadata : Option μ
  gecko : Option (Bytes × Nat)
  frames : Option φ              -- `none` = the empty frame set built from the start block
  hash : Option String
  quirks : Option Bool

def finish {μ φ : Type} (acc : PAcc μ) (frames : Option φ) : Res (PGame μ φ) :=
  match acc.peppi with
  | none => .err "missing peppi"
  | some p => match acc.start with
    | none => .err "missing start"
    | some s => .ok { start := s, fend := acc.fend, metadata := acc.metadata, gecko := acc.gecko, frames, hash := p.hash, quirks := p.quirks }

/-- the entry loop of `read` -/
def peppiLoop {μ φ : Type} (T : TextOracle) (skip : Bool) (trailerOk : Bool) : PAcc μ → List (PEntry μ φ) → Res (PGame μ φ)
  | acc, [] =>
    -- no `frames.arrow`: zero frames only if the archive is provably complete
    (match acc.peppi, acc.start with
     | some _, some _ => if trailerOk then finish acc none else .err "missing frames"
     | _, _ => finish acc none)
  | acc, .broken :: _ => .err "tar"
  | acc, .other :: rest => peppiLoop T skip trailerOk acc rest
  | acc, .peppiJson r :: rest =>
    (match r with
     | .ok p => if p.versionOk then peppiLoop T skip trailerOk { acc with peppi := some p } rest else .err "unsupported peppi version"
     | .err e => .err e
     | .panic s => .panic s)
  | acc, .startRaw b :: rest =>
    (match gameStart T b with
     | .ok s => peppiLoop T skip trailerOk { acc with start := some s } rest
     | .err e => .err e
     | .panic s => .panic s)
  | acc, .endRaw b :: rest =>
    (match gameEnd b with
     | .ok e => peppiLoop T skip trailerOk { acc with fend := some e } rest
     | .err e => .err e
     | .panic s => .panic s)
  | acc, .metadataJson r :: rest =>
    (match r with
     | .ok m => peppiLoop T skip trailerOk { acc with metadata := m } rest
     | .err e => .err e
     | .panic s => .panic s)
  | acc, .geckoRaw b :: rest =>
    if b.length < 4 then .err "eof" else
    peppiLoop T skip trailerOk { acc with gecko := some (b.drop 4, fromBE ((b.take 4).reverse)) } rest
  | acc, .framesArrow magicOk items :: _ =>
    (match acc.start with
     | none => .err "no start"
     | some _ =>
       if skip then finish acc none
       else if !magicOk then .err "expected bytes"
       else match readArrowFrames items with
         | .ok f => finish acc (some f)
         | .err e => .err e
         | .panic s => .panic s)

def peppiRead {μ φ : Type} (T : TextOracle) (skip trailerOk : Bool) (entries : List (PEntry μ φ)) : Res (PGame μ φ) :=
  peppiLoop T skip trailerOk {} entries

/-- one iteration of the entry loop: a final result, or the next accumulator (`peppiLoop_step`: the loop is the fold of this) -/
def pstep {μ φ : Type} (T : TextOracle) (skip : Bool) (acc : PAcc μ) : PEntry μ φ → Sum (Res (PGame μ φ)) (PAcc μ)
  | .broken => .inl (.err "tar")
  | .other => .inr acc
  | .peppiJson r =>
    (match r with
     | .ok p => if p.versionOk then .inr { acc with peppi := some p } else .inl (.err "unsupported peppi version")
     | .err e => .inl (.err e)
     | .panic s => .inl (.panic s))
  | .startRaw b =>
    (match gameStart T b with
     | .ok s => .inr { acc with start := some s }
     | .err e => .inl (.err e)
     | .panic s => .inl (.panic s))
  | .endRaw b =>
    (match gameEnd b with
     | .ok e => .inr { acc with fend := some e }
     | .err e => .inl (.err e)
     | .panic s => .inl (.panic s))
  | .metadataJson r =>
    (match r with
     | .ok m => .inr { acc with metadata := m }
     | .err e => .inl (.err e)
     | .panic s => .inl (.panic s))
  | .geckoRaw b =>
    if b.length < 4 then .inl (.err "eof") else .inr { acc with gecko := some (b.drop 4, fromBE ((b.take 4).reverse)) }
  | .framesArrow magicOk items =>
    (match acc.start with
     | none => .inl (.err "no start")
     | some _ =>
       if skip then .inl (finish acc none)
       else if !magicOk then .inl (.err "expected bytes")
       else match readArrowFrames items with
         | .ok f => .inl (finish acc (some f))
         | .err e => .inl (.err e)
         | .panic s => .inl (.panic s))

theorem peppiLoop_step {μ φ : Type} (T : TextOracle) (skip t : Bool) (acc : PAcc μ) (p : PEntry μ φ) (rest : List (PEntry μ φ)) :
    peppiLoop T skip t acc (p :: rest) =
      match pstep T skip acc p with
      | .inl r => r
      | .inr acc' => peppiLoop T skip t acc' rest := by
  cases p with
  | broken => rfl
  | other => rfl
  | peppiJson r =>
    cases r with
    | ok p => rw [peppiLoop, pstep]; split <;> rfl
    | err e => rfl
    | panic s => rfl
  | startRaw b => rw [peppiLoop, pstep]; cases gameStart T b <;> rfl
  | endRaw b => rw [peppiLoop, pstep]; cases gameEnd b <;> rfl
  | metadataJson r => cases r <;> rfl
  | geckoRaw b => rw [peppiLoop, pstep]; split <;> rfl
  | framesArrow m items =>
    rw [peppiLoop, pstep]
    cases acc.start with
    | none => rfl
    | some s =>
      cases skip with
      | true => rfl
      | false =>
        cases m with
        | false => rfl
        | true => simp only [Bool.false_eq_true, ↓reduceIte, Bool.not_true]; cases readArrowFrames items <;> rfl

theorem finish_ok {μ φ : Type} {acc : PAcc μ} {f : Option φ} {g : PGame μ φ} (h : finish acc f = .ok g) : g.frames = f := by
  unfold finish at h
  split at h
  · cases h
  · split at h <;> cases h
    rfl

theorem finish_noPanic {μ φ : Type} (acc : PAcc μ) (f : Option φ) (s : String) : finish acc f ≠ .panic s := by
  unfold finish
  split
  · simp
  · split <;> simp

theorem peppiLoop_nil {μ φ : Type} (T : TextOracle) (skip t : Bool) (acc : PAcc μ) :
    (t = true ∧ peppiLoop (φ := φ) T skip t acc [] = finish acc none) ∨ ∃ m, peppiLoop (φ := φ) T skip t acc [] = .err m := by
  unfold peppiLoop finish
  cases acc.peppi with
  | none => exact .inr ⟨_, rfl⟩
  | some p =>
    cases acc.start with
    | none => exact .inr ⟨_, rfl⟩
    | some s =>
      cases t with
      | true => exact .inl ⟨rfl, rfl⟩
      | false => exact .inr ⟨_, rfl⟩

theorem peppiLoop_nil_false {μ φ : Type} (T : TextOracle) (skip : Bool) (acc : PAcc μ) :
    ∃ m, peppiLoop T skip false acc ([] : List (PEntry μ φ)) = .err m :=
  (peppiLoop_nil T skip false acc).resolve_left fun h => Bool.false_ne_true h.1

/-- an entry ends the loop with an error, with the panic of the decoder it was handed to, or it is `frames.arrow` -/
theorem pstep_inl {μ φ : Type} {T : TextOracle} {skip : Bool} {acc : PAcc μ} {p : PEntry μ φ} {r : Res (PGame μ φ)}
    (h : pstep T skip acc p = .inl r) :
    (∃ m, r = .err m) ∨
    (∃ s, r = .panic s ∧ (p = .peppiJson (.panic s) ∨ p = .metadataJson (.panic s) ∨
      (∃ b, p = .startRaw b ∧ gameStart T b = .panic s) ∨ ∃ b, p = .endRaw b ∧ gameEnd b = .panic s)) ∨
    ∃ m items, p = .framesArrow m items := by
  cases p with
  | broken => cases h; exact .inl ⟨_, rfl⟩
  | other => cases h
  | peppiJson x =>
    cases x with
    | ok p => simp only [pstep] at h; split at h <;> cases h; exact .inl ⟨_, rfl⟩
    | err e => cases h; exact .inl ⟨_, rfl⟩
    | panic s => cases h; exact .inr (.inl ⟨s, rfl, .inl rfl⟩)
  | startRaw b =>
    simp only [pstep] at h
    cases hd : gameStart T b with
    | ok s => rw [hd] at h; cases h
    | err e => rw [hd] at h; cases h; exact .inl ⟨_, rfl⟩
    | panic s => rw [hd] at h; cases h; exact .inr (.inl ⟨s, rfl, .inr (.inr (.inl ⟨b, rfl, hd⟩))⟩)
  | endRaw b =>
    simp only [pstep] at h
    cases hd : gameEnd b with
    | ok s => rw [hd] at h; cases h
    | err e => rw [hd] at h; cases h; exact .inl ⟨_, rfl⟩
    | panic s => rw [hd] at h; cases h; exact .inr (.inl ⟨s, rfl, .inr (.inr (.inr ⟨b, rfl, hd⟩))⟩)
  | metadataJson x =>
    cases x with
    | ok m => cases h
    | err e => cases h; exact .inl ⟨_, rfl⟩
    | panic s => cases h; exact .inr (.inl ⟨s, rfl, .inr (.inl rfl)⟩)
  | geckoRaw b => simp only [pstep] at h; split at h <;> cases h; exact .inl ⟨_, rfl⟩
  | framesArrow m items => exact .inr (.inr ⟨m, items, rfl⟩)

theorem pstep_frames {μ φ : Type} (T : TextOracle) (skip : Bool) (acc : PAcc μ) (m : Bool) (items : List (SItem φ)) :
    (∃ e, pstep T skip acc (.framesArrow m items) = .inl (.err e)) ∨
    (skip = true ∧ pstep T skip acc (.framesArrow m items) = .inl (finish acc none)) ∨
    (skip = false ∧ m = true ∧ ∃ f, items = [.chunk f] ∧ pstep T skip acc (.framesArrow m items) = .inl (finish acc (some f))) := by
  simp only [pstep]
  cases acc.start with
  | none => exact .inl ⟨_, rfl⟩
  | some s =>
    cases skip with
    | true => exact .inr (.inl ⟨rfl, rfl⟩)
    | false =>
      cases m with
      | false => exact .inl ⟨_, rfl⟩
      | true =>
        cases hr : readArrowFrames items with
        | ok f => exact .inr (.inr ⟨rfl, rfl, f, (readArrowFrames_ok_iff items f).mp hr, rfl⟩)
        | err e => exact .inl ⟨e, rfl⟩
        | panic s => exact absurd hr (readArrowFrames_noPanic items s)

theorem pstep_frames_inl {μ φ : Type} (T : TextOracle) (skip : Bool) (acc : PAcc μ) (m : Bool) (items : List (SItem φ)) :
    ∃ r, pstep T skip acc (.framesArrow m items) = .inl r := by
  rcases pstep_frames T skip acc m items with ⟨e, he⟩ | ⟨_, he⟩ | ⟨_, _, f, _, he⟩
  · exact ⟨_, he⟩
  · exact ⟨_, he⟩
  · exact ⟨_, he⟩

theorem pstep_frames_skip {μ φ : Type} (T : TextOracle) (acc : PAcc μ) (m m' : Bool) (items items' : List (SItem φ)) :
    pstep T true acc (.framesArrow m items) = pstep T true acc (.framesArrow m' items') := by
  simp only [pstep]; cases acc.start <;> rfl

/-- **C18 (unknown entries)**: entries with other names, anywhere, do not change the result -/
theorem peppiLoop_skip_other {μ φ : Type} (T : TextOracle) (skip trailerOk : Bool) :
    ∀ (es : List (PEntry μ φ)) (acc : PAcc μ),
      peppiLoop T skip trailerOk acc es = peppiLoop T skip trailerOk acc (es.filter fun e => match e with | .other => false | _ => true) := by
  intro es
  induction es with
  | nil => intro acc; rfl
  | cons e es ih =>
    intro acc
    cases e with
    | other => exact ih acc
    | _ =>
      rw [List.filter_cons_of_pos rfl, peppiLoop_step, peppiLoop_step]
      split
      · rfl
      · exact ih _

/-- **C07 (`.slpp`, archive level)**: a game with frames is returned only if the Arrow stream yielded exactly one chunk and
    then ended; a game without a `frames.arrow` entry only if the end-of-archive trailer is complete (or frames are skipped) -/
theorem peppiLoop_ok {μ φ : Type} (T : TextOracle) (trailerOk : Bool) :
    ∀ (es : List (PEntry μ φ)) (acc : PAcc μ) (g : PGame μ φ), peppiLoop T false trailerOk acc es = .ok g →
      (∃ f pre post, es = pre ++ PEntry.framesArrow true [.chunk f] :: post ∧ g.frames = some f) ∨
      ((∀ m items, PEntry.framesArrow m items ∉ es) ∧ trailerOk = true ∧ g.frames = none) := by
  intro es
  induction es with
  | nil =>
    intro acc g h
    rcases peppiLoop_nil (φ := φ) T false trailerOk acc with ⟨ht, hf⟩ | ⟨m, hm⟩
    · exact .inr ⟨fun _ _ => List.not_mem_nil, ht, finish_ok (hf ▸ h)⟩
    · rw [hm] at h; cases h
  | cons e es ih =>
    intro acc g h
    rw [peppiLoop_step] at h
    cases hp : pstep T false acc e with
    | inl r =>
      -- the loop ended at `e` with a game: `e` is `frames.arrow`, and its stream was one chunk
      rw [hp] at h; subst h
      rcases pstep_inl hp with ⟨m, hm⟩ | ⟨s, hs, _⟩ | ⟨m, items, rfl⟩
      · cases hm
      · cases hs
      · rcases pstep_frames T false acc m items with ⟨e, he⟩ | ⟨hk, _⟩ | ⟨_, rfl, f, rfl, hf⟩
        · rw [he] at hp; cases hp
        · cases hk
        · rw [hf] at hp
          exact .inl ⟨f, [], es, rfl, finish_ok (Sum.inl.inj hp)⟩
    | inr acc' =>
      -- the loop went on: `e` is not `frames.arrow`, and stands in front of whatever the rest of the list holds
      rw [hp] at h
      rcases ih acc' g h with ⟨f, pre, post, rfl, hf⟩ | ⟨hno, ht, hf⟩
      · exact .inl ⟨f, e :: pre, post, rfl, hf⟩
      · refine .inr ⟨fun m items hm => ?_, ht, hf⟩
        rcases List.mem_cons.mp hm with rfl | hm
        · obtain ⟨r, hr⟩ := pstep_frames_inl T false acc m items
          rw [hr] at hp
          cases hp
        · exact hno m items hm

#print axioms peppiLoop_skip_other
#print axioms peppiLoop_ok
end Peppi
