import Peppi.Lemmas.FrameStepB
/-! Per-frame theorem for version < 2.2: no Frame Start; the first pre-frame event with the next id closes the previous
    frame and opens the next one (the `frame_close` that the repair of defect D1 put there: DESIGN.md §5). -/
namespace Peppi
open Extracted

/-- canonical event order of one frame, version < 2.2 -/
def frameEventsC (v : Ver) (shape : List PortOccupancy) (o : FrameOcc) : List (Nat × Bytes) :=
  charEvents false v o.id (slotList shape 0) (presentFrom 0 o.chars) ++
  charEvents true v o.id (slotList shape 0) (presentFrom 0 o.chars)

/-- the frame step, version < 2.2: `pre_first_eq` on the first pre event, then `open_step` -/
theorem frame_open_C (v : Ver) (shape : List PortOccupancy) (h : List FrameOcc) (o : FrameOcc) (st : PState)
    (hv : st.start.version = v) (h30 : v.gte 3 0 = false) (h22 : v.gte 2 2 = false)
    (hinv : OpenInv v shape h st.frames)
    (hmap : PortMapOK st.portIdx shape) (hports : ∀ p ∈ shape, p.port < 256)
    (ho : o.OK v (nSlots shape))
    (hnext : ((h.map (·.id)).getLast?).getD (FIRST_INDEX - 1) + 1 = o.id)
    (hne : presentFrom 0 o.chars ≠ []) :
    ∃ f, runEvents st (frameEventsC v shape o) = .ok { st with frames := f } ∧ OpenInv v shape (h ++ [o]) f := by
  have ⟨hid, hst, _, _, _, hcl⟩ := hinv
  -- the state "as if" the frame had been closed and the next one opened
  have hshape : shapeOf st.frames.close.ports = shape := by rw [hcl, (expPorts_shape shape h).1]
  have w : InFrame v shape o.id { st with frames := { st.frames.close with id := st.frames.id ++ [o.id] } } :=
    ⟨hv, hshape, hmap, hports, by simp [PState.lastId]⟩
  -- the first pre event behaves the same from `st` and from that state
  have hfirst : ∀ rest, runEvents st (charEvents false v o.id (slotList shape 0) (presentFrom 0 o.chars) ++ rest) =
      runEvents { st with frames := { st.frames.close with id := st.frames.id ++ [o.id] } }
        (charEvents false v o.id (slotList shape 0) (presentFrom 0 o.chars) ++ rest) := by
    intro rest
    cases hpf : presentFrom 0 o.chars with
    | nil => exact absurd hpf hne
    | cons co more =>
      obtain ⟨hc, _⟩ := presentFrom_ok v (nSlots shape) o ho co (by rw [hpf]; simp)
      obtain ⟨d, hd⟩ : ∃ d, (slotList shape 0)[co.1]? = some d := ⟨_, List.getElem?_eq_getElem hc⟩
      have h256 : d.2.2 < 256 := (w.slot hd).1
      have hv22 : st.start.version.gte 2 2 = false := by rw [hv]; exact h22
      have hnext' : st.lastId.getD (FIRST_INDEX - 1) + 1 = o.id := by
        simp only [PState.lastId, hid]
        exact hnext
      have := pre_first_eq st o.id d.2.2 d.2.1 co.2.pre ho.id h256 hv22 hnext'
      rw [hv] at this
      simp only [charEvents, List.map_cons, List.cons_append, runEvents, charEvent, hd, Bool.false_eq_true, ↓reduceIte, this]
  obtain ⟨f, e2, hf⟩ := open_step h o hv h30 hinv hmap hports ho st.frames.start
    (hst.trans (expFrames_lt22 shape h h22 (h ++ [o])))
  refine ⟨f, ?_, hf⟩
  rw [frameEventsC, hfirst]
  exact e2

theorem frame_step_C (v : Ver) (shape : List PortOccupancy) (h : List FrameOcc) (o : FrameOcc) (st : PState)
    (hv : st.start.version = v) (h30 : v.gte 3 0 = false) (h22 : v.gte 2 2 = false)
    (hinv : OpenInv v shape h st.frames)
    (hmap : PortMapOK st.portIdx shape) (hports : ∀ p ∈ shape, p.port < 256)
    (ho : o.OK v (nSlots shape))
    (hnext : ((h.map (·.id)).getLast?).getD (FIRST_INDEX - 1) + 1 = o.id)
    (hne : presentFrom 0 o.chars ≠ []) :
    ∃ st', runEvents st (frameEventsC v shape o) = .ok st' ∧ st'.ctx = st.ctx ∧ st'.fend = st.fend ∧ st'.gecko = st.gecko ∧
      st'.metadata = st.metadata ∧ st'.doubleGameEnd = st.doubleGameEnd ∧ OpenInv v shape (h ++ [o]) st'.frames :=
  frames_only (frame_open_C v shape h o st hv h30 h22 hinv hmap hports ho hnext hne)

#print axioms frame_step_C

theorem frames_open_C (v : Ver) (shape : List PortOccupancy) (h30 : v.gte 3 0 = false) (h22 : v.gte 2 2 = false)
    (hports : ∀ p ∈ shape, p.port < 256) (h h0 : List FrameOcc) (st : PState) (hv : st.start.version = v)
    (hinv : OpenInv v shape h0 st.frames) (hmap : PortMapOK st.portIdx shape) (hok : ∀ o ∈ h, o.OK v (nSlots shape))
    (hseq : ∀ pre o post, h = pre ++ o :: post →
      (((h0 ++ pre).map (·.id)).getLast?).getD (FIRST_INDEX - 1) + 1 = o.id ∧ presentFrom 0 o.chars ≠ []) :
    ∃ f, runEvents st (h.flatMap (frameEventsC v shape)) = .ok { st with frames := f } ∧ OpenInv v shape (h0 ++ h) f := by
  have step : ∀ (pre : List FrameOcc) (o : FrameOcc) (post : List FrameOcc) (f0 : FCols),
      h = pre ++ o :: post → OpenInv v shape (h0 ++ pre) f0 →
      ∃ f, runEvents { st with frames := f0 } (frameEventsC v shape o) = .ok { st with frames := f } ∧
        OpenInv v shape (h0 ++ (pre ++ [o])) f := by
    intro pre o post f0 hsplit hf
    have ho : o.OK v (nSlots shape) := hok o (by simp [hsplit])
    obtain ⟨hnext, hne⟩ := hseq pre o post hsplit
    rw [← List.append_assoc]
    exact frame_open_C v shape (h0 ++ pre) o { st with frames := f0 } hv h30 h22 hf hmap hports ho hnext hne
  exact runEvents_fold st (ev := frameEventsC v shape) (Inv := fun l => OpenInv v shape (h0 ++ l)) (l := h) step st.frames
    (by simpa using hinv)

/-- whole histories, regime C: the reader ends in a state whose *closed* columns are the expected ones -/
theorem frames_C (v : Ver) (shape : List PortOccupancy) (h30 : v.gte 3 0 = false) (h22 : v.gte 2 2 = false)
    (hports : ∀ p ∈ shape, p.port < 256) :
    ∀ (h h0 : List FrameOcc) (st : PState), st.start.version = v → OpenInv v shape h0 st.frames → PortMapOK st.portIdx shape →
      (∀ o ∈ h, o.OK v (nSlots shape)) →
      (∀ pre o post, h = pre ++ o :: post →
        (((h0 ++ pre).map (·.id)).getLast?).getD (FIRST_INDEX - 1) + 1 = o.id ∧ presentFrom 0 o.chars ≠ []) →
      ∃ st', runEvents st (h.flatMap (frameEventsC v shape)) = .ok st' ∧ st'.ctx = st.ctx ∧ st'.fend = st.fend ∧ st'.gecko = st.gecko ∧
        st'.metadata = st.metadata ∧ st'.doubleGameEnd = st.doubleGameEnd ∧ OpenInv v shape (h0 ++ h) st'.frames :=
  fun h h0 st hv hinv hmap hok hseq => frames_only (frames_open_C v shape h30 h22 hports h h0 st hv hinv hmap hok hseq)

#print axioms frames_C
end Peppi
