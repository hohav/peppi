import Peppi.Lemmas.Tables
import Peppi.Lemmas.Trunc
/-! C10 (`.slp`): the skip-frames read.  The jump is computed from the declared raw length and the declared size of Game End alone,
    so one statement covers every file in the general shape whose raw element ends with a Game End event (`readP_skip_gen`); of
    the canonical file it needs the payload table and nothing about the frame events. -/
namespace Peppi
open Extracted

/-- for input that is not of the shape `GFile` (`readP_front` is this for a `GFile`) -/
theorem readP_skip_unfold (T : TextOracle) (hash : Bool) (x rest1 rest2 : Bytes) (rawLen : Nat) (ps : ParseState)
    (h1 : parseHeader x = .ok (rawLen, rest1)) (h2 : parseStart T rest1 = .ok (ps, rest2)) :
    readP T { skipFrames := true, computeHash := hash } x = (skipToEnd rawLen ps >>= loopTail T rawLen) rest2 := by
  show (parseHeader >>= fun rawLen => parseStart T >>= fun ps => skipToEnd rawLen ps >>= fun ps => loopTail T rawLen ps) x = _
  simp only [bind, h1, h2]

/-- the frames a skipping read returns: the start-of-game frame set, closed when the version closes lazily (`st.closed.frames`) -/
def skipFrames (st : PState) : FCols := if st.start.version.lt 3 0 then st.frames.close else st.frames

theorem skipFrames_eq (st : PState) : skipFrames st = st.closed.frames := by
  rw [PState.closed_eq]
  rfl

/-- from the state after `parse_start`, on `mid ++ last Game End ++ tail` with the raw length that the canonical file declares:
    the jump lands on the last Game End, the loop reads it and stops, the tail is read; nothing is left -/
theorem skip_gen (T : TextOracle) (ps : ParseState) (rawLen : Nat) (mid e : Bytes) (ge : End) (md : Option KVs)
    (hsz : sizeOfEv ps.st.sizes EV_GAME_END = some e.length) (hge : gameEnd e = .ok ge)
    (hraw : rawLen = ps.bytesRead + mid.length + (1 + e.length))
    (hmd : ps.st.metadata = none) (hwf : ∀ m, md = some m → KVs.WF T.utf8Ok 1 m) :
    (skipToEnd rawLen ps >>= loopTail T rawLen) (mid ++ (encEvent (EV_GAME_END, e) ++ metaBytes md)) =
      .ok (gameOf { ps.st with fend := some ge, frames := skipFrames ps.st } md ps.st.doubleGameEnd, []) := by
  have hjump : skipToEnd rawLen ps (mid ++ (encEvent (EV_GAME_END, e) ++ metaBytes md)) =
      .ok ({ ps with bytesRead := ps.bytesRead + mid.length }, encEvent (EV_GAME_END, e) ++ metaBytes md) := by
    unfold skipToEnd
    simp only [hsz, Option.getD_some]
    have hc : ¬ (rawLen = 0 ∨ rawLen < ps.bytesRead ∨ rawLen - ps.bytesRead < 1 + e.length) := by omega
    simp only [hc, ↓reduceIte]
    have hk : rawLen - ps.bytesRead - (1 + e.length) = mid.length := by omega
    rw [hk, List.drop_left' rfl]
  simp only [bind, hjump]
  have ht := loopTail_end T rawLen { ps with bytesRead := ps.bytesRead + mid.length } e ge [] md hsz hge
    (by simp only [List.length_nil]; omega) hmd hwf
  rw [List.nil_append] at ht
  rw [ht, dgeOf_nil, skipFrames_eq, PState.closed_eq, PState.closed_eq]

theorem split_last_end (r : Replay) (e : Bytes) (hfe : r.fend = some e) (pre : Bytes) :
    ∃ mid, pre ++ encEvents r.endEvents = mid ++ encEvent (EV_GAME_END, e) ∧
      pre.length + (encEvents r.endEvents).length = mid.length + (1 + e.length) := by
  cases hd : r.doubled with
  | false =>
    refine ⟨pre, by simp [Replay.endEvents, hfe, hd, encEvents_cons, encEvents_nil], ?_⟩
    simp [Replay.endEvents, hfe, hd, encEvents_cons, encEvents_nil, encEvent]; omega
  | true =>
    refine ⟨pre ++ encEvent (EV_GAME_END, e), by simp [Replay.endEvents, hfe, hd, encEvents_cons, encEvents_nil], ?_⟩
    simp [Replay.endEvents, hfe, hd, encEvents_cons, encEvents_nil, encEvent]; omega

theorem skipFrames_ps0T (t : List (Nat × Nat)) (sl : Nat) (s : Start) :
    skipFrames (ps0T t sl s).st = FCols.new s.version (portOccupancy s) := by
  unfold skipFrames
  split
  · exact FCols.new_close _ _
  · rfl

/-- the frame set is the one `parse_start` created, whatever lies between Game Start and the last Game End -/
theorem readP_skip_gen (T : TextOracle) (f : GFile) (s : Start) (hash : Bool) (m e : Bytes) (ge : End)
    (hstart : gameStart T f.startBlock = .ok s) (ht : TableOK f.table) (hnd : (f.table.map Prod.fst).Nodup)
    (hlen : 3 * f.table.length + 1 < 256) (hGS : (EV_GAME_START, f.startBlock.length) ∈ f.table)
    (hGE : (EV_GAME_END, e.length) ∈ f.table) (hshape : f.mid ++ f.endPart = m ++ encEvent (EV_GAME_END, e))
    (hge : gameEnd e = .ok ge) (hmd : ∀ md, f.metadata = some md → KVs.WF T.utf8Ok 1 md) (hraw : f.raw.length < 256 ^ 4) :
    readP T { skipFrames := true, computeHash := hash } f.encode =
      .ok (gameOf { (ps0T f.table f.startBlock.length s).st with
                      fend := some ge, frames := skipFrames (ps0T f.table f.startBlock.length s).st } f.metadata none, []) := by
  have hrl : f.raw.length = (ps0T f.table f.startBlock.length s).bytesRead + m.length + (1 + e.length) := by
    rw [f.raw_length s, hshape, List.length_append, Nat.add_assoc]
    simp [encEvent, Nat.add_comm]
  rw [readP_front T _ f s e.length hstart ht hlen hnd hGS hGE hraw, ← List.append_assoc f.mid, hshape, List.append_assoc]
  simp only [↓reduceIte]
  rw [skip_gen T _ _ m e ge f.metadata (sizeOfEv_reverse _ hnd _ _ hGE) hge hrl rfl hmd]
  rfl

/-- **C10 (`.slp`), every version**: on a finished well-formed replay the skip-frames reader lands on the last Game End,
    consumes the file to its last byte and returns the start block, that Game End, the metadata and the empty frame set. -/
theorem C10_any (T : TextOracle) (r : Replay) (s : Start) (gk : Option GeckoBlocks) (h : r.WFAny T s gk)
    (e : Bytes) (hfe : r.fend = some e) (hash : Bool) :
    ∃ ge, gameEnd e = .ok ge ∧
      readP T { skipFrames := true, computeHash := hash } (r.encodeAny s.version (portOccupancy s) gk) = .ok (r.gameSkip s ge, []) := by
  have hlen : 3 * (canonTableAny s.version r.startBlock.length (r.endLen s.version) gk).length + 1 < 256 := by
    have := canonTableAny_length s.version r.startBlock.length (r.endLen s.version) gk
    omega
  have hendlen : r.endLen s.version = e.length := by simp [Replay.endLen, hfe]
  have hGE : (EV_GAME_END, e.length) ∈ canonTableAny s.version r.startBlock.length (r.endLen s.version) gk := by
    rw [← hendlen]
    exact canonTableAny_end _ _ _ gk
  obtain ⟨_, _, ge, hge⟩ := h.endOK e hfe
  refine ⟨ge, hge, ?_⟩
  have hd : r.doubled = true → ∃ e, r.fend = some e := h.doubled_fend
  obtain ⟨m, hm, _⟩ := split_last_end r e hfe (r.gfileCanon s.version (portOccupancy s) gk).mid
  have hshape : (r.gfileCanon s.version (portOccupancy s) gk).mid ++ (r.gfileCanon s.version (portOccupancy s) gk).endPart =
      m ++ encEvent (EV_GAME_END, e) := by
    rw [← hm, Replay.gfileCanon, r.gfile_endPart _ _ [] fun h => ⟨hd h, rfl⟩, List.append_nil]
  have hraw : (r.gfileCanon s.version (portOccupancy s) gk).raw.length < 256 ^ 4 := by
    rw [r.gfileCanon_raw _ h.gecko30 hd]
    exact h.rawLen
  have hskip := readP_skip_gen T (r.gfileCanon s.version (portOccupancy s) gk) s hash m e ge h.start (canonTableAny_ok h)
    (canonTableAny_nodup _ _ _ gk) hlen (canonTableAny_start _ _ _ gk) hGE hshape hge h.metadata hraw
  rw [← r.gfileCanon_encode _ h.gecko30 hd, hskip, skipFrames_ps0T]
  rfl

/-- **C10, ≥ 3.0** -/
theorem readP_skip_A (T : TextOracle) (r : Replay) (s : Start) (h : r.WF T s) (e : Bytes) (hfe : r.fend = some e) (hash : Bool) :
    ∃ ge, gameEnd e = .ok ge ∧
      readP T { skipFrames := true, computeHash := hash } (r.encode s.version (portOccupancy s)) = .ok (r.gameSkip s ge, []) :=
  h.encodeAny_eq _ ▸ C10_any T r s none h.toAny e hfe hash

/-- **C10, 2.2 ≤ v < 3.0** -/
theorem readP_skip_B (T : TextOracle) (r : Replay) (s : Start) (h : r.WFB T s) (e : Bytes) (hfe : r.fend = some e) (hash : Bool) :
    ∃ ge, gameEnd e = .ok ge ∧
      readP T { skipFrames := true, computeHash := hash } (r.encodeB s.version (portOccupancy s)) = .ok (r.gameSkip s ge, []) :=
  h.encodeAny_eq _ ▸ C10_any T r s none h.toAny e hfe hash

/-- **C10, v < 2.2** -/
theorem readP_skip_C (T : TextOracle) (r : Replay) (s : Start) (h : r.WFC T s) (e : Bytes) (hfe : r.fend = some e) (hash : Bool) :
    ∃ ge, gameEnd e = .ok ge ∧
      readP T { skipFrames := true, computeHash := hash } (r.encodeC s.version (portOccupancy s)) = .ok (r.gameSkip s ge, []) :=
  h.encodeAny_eq _ ▸ C10_any T r s none h.toAny e hfe hash

/-- **C10, ≥ 3.3 with a Gecko block** (the skipped game carries no Gecko codes: the block lies in the skipped range) -/
theorem readP_skip_G (T : TextOracle) (r : Replay) (s : Start) (gk : GeckoBlocks) (h : r.WFG T s gk) (e : Bytes) (hfe : r.fend = some e)
    (hash : Bool) :
    ∃ ge, gameEnd e = .ok ge ∧
      readP T { skipFrames := true, computeHash := hash } (r.encodeG s.version (portOccupancy s) gk) = .ok (r.gameSkip s ge, []) :=
  C10_any T r s (some gk) h.toAny e hfe hash

#print axioms readP_skip_A
#print axioms readP_skip_B
#print axioms readP_skip_C
#print axioms readP_skip_G

/-- **C07 (`.slp`, ≥ 3.0), both option sets**: every proper prefix of a finished well-formed file is rejected -/
theorem C07_slp_skip_A (T : TextOracle) (r : Replay) (s : Start) (h : r.WF T s) (e : Bytes) (hfe : r.fend = some e) (hash : Bool)
    (n : Nat) (hn : n < (r.encode s.version (portOccupancy s)).length) :
    ∃ err, readSlp T { skipFrames := true, computeHash := hash } ((r.encode s.version (portOccupancy s)).take n) = .err err := by
  obtain ⟨ge, _, hskip⟩ := readP_skip_A T r s h e hfe hash
  exact C07_slp_general T _ _ _ hskip n hn

#print axioms C07_slp_skip_A

/-- **C07 for the remaining cases** -/
theorem C07_slp_skip_B (T : TextOracle) (r : Replay) (s : Start) (h : r.WFB T s) (e : Bytes) (hfe : r.fend = some e) (hash : Bool)
    (n : Nat) (hn : n < (r.encodeB s.version (portOccupancy s)).length) :
    ∃ err, readSlp T { skipFrames := true, computeHash := hash } ((r.encodeB s.version (portOccupancy s)).take n) = .err err := by
  obtain ⟨ge, _, hskip⟩ := readP_skip_B T r s h e hfe hash
  exact C07_slp_general T _ _ _ hskip n hn
theorem C07_slp_skip_C (T : TextOracle) (r : Replay) (s : Start) (h : r.WFC T s) (e : Bytes) (hfe : r.fend = some e) (hash : Bool)
    (n : Nat) (hn : n < (r.encodeC s.version (portOccupancy s)).length) :
    ∃ err, readSlp T { skipFrames := true, computeHash := hash } ((r.encodeC s.version (portOccupancy s)).take n) = .err err := by
  obtain ⟨ge, _, hskip⟩ := readP_skip_C T r s h e hfe hash
  exact C07_slp_general T _ _ _ hskip n hn
theorem C07_slp_skip_G (T : TextOracle) (r : Replay) (s : Start) (gk : GeckoBlocks) (h : r.WFG T s gk) (e : Bytes) (hfe : r.fend = some e)
    (hash : Bool) (n : Nat) (hn : n < (r.encodeG s.version (portOccupancy s) gk).length) :
    ∃ err, readSlp T { skipFrames := true, computeHash := hash } ((r.encodeG s.version (portOccupancy s) gk).take n) = .err err := by
  obtain ⟨ge, _, hskip⟩ := readP_skip_G T r s gk h e hfe hash
  exact C07_slp_general T _ _ _ hskip n hn

end Peppi
