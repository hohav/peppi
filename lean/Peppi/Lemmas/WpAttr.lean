import Lean.Meta.Tactic.Simp.RegisterCommand
/-- the equations by which `Res.wp` / `Rd.wp` are computed through the reader combinators (`Lemmas/Wp.lean`) -/
register_simp_attr wp
