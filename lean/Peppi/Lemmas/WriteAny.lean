import Peppi.Lemmas.WriteSizes
/-! The write half of C01 at file level, once for every version: serialising the game a well-formed replay denotes gives its
    canonical file (`write_game_any`), by way of `raw_size` (`rawSize_any`).  Of the instances for the four framing regimes
    (A: ≥ 3.0, B: 2.2 to 3.0, C: < 2.2, G: with a Gecko block) only those that other modules name are stated; any other is
    the `_any` theorem at `h.toAny` (for C: `Replay.WFC.toAny`, with `Replay.WFC.encodeAny_eq` for the file). -/
namespace Peppi
open Extracted

theorem writeFrames_any (v : Ver) (shape : List PortOccupancy) (h : List FrameOcc) (hn : ∀ o ∈ h, o.chars.length = nSlots shape) :
    writeFrames v (expFrames v shape h) = .ok (encEvents (canonEventsAny v shape h)) := by
  rw [canonEventsAny_eq]
  exact writeFrames_exp v shape h hn

theorem canonEventsAny_length (v : Ver) (shape : List PortOccupancy) (h : List FrameOcc) (hok : ∀ o ∈ h, o.OK v (nSlots shape)) :
    (encEvents (canonEventsAny v shape h)).length =
      h.length * (if v.gte 2 2 then 1 + (4 + rowSize v Start.readPush) else 0)
        + (h.map fun o => countSome o.chars).sum * (1 + (6 + rowSize v Pre.readPush))
        + (h.flatMap (·.items)).length * (if v.gte 3 0 then 1 + (4 + rowSize v Item.readPush) else 0)
        + (h.map fun o => countSome o.chars).sum * (1 + (6 + rowSize v Post.readPush))
        + h.length * (if v.gte 3 0 then 1 + (4 + rowSize v End.readPush) else 0) := by
  rw [canonEventsAny_eq]
  exact framesIf_length _ _ v shape h hok

theorem endEvents_length (r : Replay) (s : Start) (ge : Option End) (hb : r.fend = ge.map (·.bytes)) :
    (encEvents r.endEvents).length = endPart ge.isSome r.doubled (r.endLen s.version) := by
  rw [Replay.endEvents, Replay.endLen, hb]
  cases ge with
  | none => rfl
  | some g => cases r.doubled <;> simp [endPart, encEvents, encEvent] <;> omega

theorem geckoCodesSize_blocks (g : GeckoBlocks) (hf : ∀ b ∈ g.init, FullBlock b) (hl : LastBlock g.last) :
    geckoCodesSize ⟨catData g.all, g.total⟩ = .ok g.enc.length := by
  have h512 : ∀ b ∈ g.all, b.1.length = 512 := by
    intro b hb
    rcases List.mem_append.mp hb with hi | hb
    · exact (hf b hi).1
    · rw [List.mem_singleton.mp hb]
      exact hl.1
  have hcl : (catData g.all).length = 512 * (g.init.length + 1) := by
    rw [catData_length g.all h512, GeckoBlocks.all, List.length_append, List.length_singleton]
  unfold geckoCodesSize
  rw [g.enc_length hf hl, hcl, if_neg (by simp), Nat.mul_div_cancel_left _ (by decide : 0 < 512), Nat.mul_comm]

/-- `raw_size` adds header, Game Start, Game End, the pre and post events, then Frame Start, Frame End, items and the Gecko block;
    the file has them in another order -/
theorem rawSize_arith (t sl ep P Q S E I gz : Nat) :
    1 + 1 + t + 1 + sl + ep + P + Q + S + E + I + gz = 2 + t + (1 + sl) + gz + (S + P + I + Q + E) + ep := by
  omega

variable {T : TextOracle} {r : Replay} {s : Start} {gk : Option GeckoBlocks}

/-- `raw_size`: the declared length is the length of the raw element that is actually written -/
theorem rawSize_any (h : r.WFAny T s gk) (ge : Option End) (hb : r.fend = ge.map (·.bytes)) :
    rawSize (canonTableAny s.version r.startBlock.length (r.endLen s.version) gk) (r.gameAny s ge gk) =
      .ok (r.rawAny s.version (portOccupancy s) gk).length := by
  have hn : ∀ o ∈ r.frames, o.chars.length = nSlots (portOccupancy s) := fun o ho => (h.frames o ho).chars
  -- the item term: the count `frameCounts_exp` gives and the size `canonTableAny_optItem` gives are both gated by `v ≥ 3.0`
  have hmul : ∀ (c : Bool) (a b : Nat), (if c then a else 0) * (if c then b else 0) = a * (if c then b else 0) := by
    intro c a b; cases c <;> simp
  have hraw : (r.rawAny s.version (portOccupancy s) gk).length < 2 ^ 32 := h.rawLen
  rw [r.rawAny_length s.version (portOccupancy s) gk h.gecko30, canonEventsAny_length s.version (portOccupancy s) r.frames h.frames,
    endEvents_length r s ge hb] at hraw ⊢
  rw [Replay.gameAny_eq, rawSize]
  simp only [bind, canonTableAny_getStart, canonTableAny_getEnd, canonTableAny_getPre, canonTableAny_getPost,
    canonTableAny_optStart _ _ _ _ h.gecko30, canonTableAny_optItem _ _ _ _ h.gecko30, canonTableAny_optEnd _ _ _ _ h.gecko30,
    frameCounts_exp _ _ _ hn, doubled_getD, hmul]
  -- regrouped in the same order (the Gecko term is bound by the `match` on `gecko_codes_size`, so `rw` cannot reach the sum)
  simp only [rawSize_arith]
  cases gk with
  | none =>
    simp only [Option.map_none, Option.getD_none, List.length_nil] at hraw ⊢
    rw [if_pos hraw]
  | some g =>
    obtain ⟨-, hfull, hlast, -⟩ := h.gecko g rfl
    simp only [Option.map_some, Option.getD_some, geckoCodesSize_blocks g hfull hlast] at hraw ⊢
    rw [if_pos hraw]

/-- the payload table as `write` emits it -/
theorem table_bytes (t : List (Nat × Nat)) : (t.flatMap fun e => [UInt8.ofNat e.1] ++ toBE 2 e.2) = encTable t := by
  induction t with
  | nil => rfl
  | cons e es ih =>
    rw [List.flatMap_cons, ih]
    simp [encTable, encEntry, toBE]

theorem endBytesOf_endEvents (r : Replay) (ge : Option End) (hb : r.fend = ge.map (·.bytes)) :
    endBytesOf ge r.doubled = encEvents r.endEvents := by
  rw [Replay.endEvents, hb]
  cases ge with
  | none => rfl
  | some g => cases r.doubled <;> simp [endBytesOf, encEvents, encEvent, show UInt8.ofNat EV_GAME_END = 0x39 by decide]

theorem writeMeta_tail (T : TextOracle) (r : Replay) (hwf : ∀ m, r.metadata = some m → KVs.WF T.utf8Ok 1 m) :
    ∃ b, writeMeta r.metadata = .ok b ∧ b ++ [0x7d] = r.tail := by
  unfold writeMeta Replay.tail
  cases hm : r.metadata with
  | none => exact ⟨[], rfl, rfl⟩
  | some m => exact ⟨_, by simp only [bind, writeMap_enc T.utf8Ok m 1 (hwf m hm), pure], rfl⟩

/-- **write half of C01, every version ≤ the maximum**: serialising the game a well-formed replay denotes gives its
    canonical file -/
theorem write_game_any (T : TextOracle) (r : Replay) (s : Start) (gk : Option GeckoBlocks) (h : r.WFAny T s gk)
    (hmax : assertMaxVersion s.version = .ok ()) (ge : Option End) (hge : r.fend.map gameEnd = ge.map Res.ok) :
    writeSlp (r.gameAny s ge gk) = .ok (r.encodeAny s.version (portOccupancy s) gk) := by
  have hn : ∀ o ∈ r.frames, o.chars.length = nSlots (portOccupancy s) := fun o ho => (h.frames o ho).chars
  obtain ⟨mb, hmeta, htail⟩ := writeMeta_tail T r h.metadata
  have hb := parsedEnd_bytes hge
  have hsizes := payloadSizes_any h ge hb
  have hraw := rawSize_any h ge hb
  rw [Replay.gameAny_eq] at hsizes hraw
  rw [Replay.gameAny_eq, writeSlp]
  simp only [bind, pure, hmax, hsizes, hraw, table_bytes, writeFrames_any _ _ _ hn, doubled_getD, endBytesOf_endEvents r ge hb,
    hmeta, gameStart_bytes T _ s h.start]
  -- the file on the right, spelled out the same way
  rw [r.encodeAny_eq, ← htail]
  generalize (r.rawAny s.version (portOccupancy s) gk).length = n
  rw [r.rawAny_eq _ _ _ h.gecko30]
  have c : (UInt8.ofNat EV_GAME_START) = 0x36 := by decide
  simp only [tablePrefix, encEvent, c, Nat.mul_comm _ 3, List.append_assoc, List.cons_append, List.nil_append]
  cases gk with
  | none => rfl
  | some g =>
    obtain ⟨-, hfull, hlast, -⟩ := h.gecko g rfl
    simp only [Option.map_some, Option.getD_some, show writeGecko ⟨catData g.all, g.total⟩ = .ok g.enc from
      writeGecko_blocks g.init g.last hfull hlast]

#print axioms write_game_any

theorem payloadSizes_A (T : TextOracle) (r : Replay) (s : Start) (h : r.WF T s) (ge : Option End)
    (hge : r.fend.map gameEnd = ge.map Res.ok) :
    payloadSizes (r.game s ge) = .ok (canonTable s.version r.startBlock.length (r.endLen s.version)) := by
  simpa [Replay.gameAny, canonTableAny, h.v30] using payloadSizes_any h.toAny ge (parsedEnd_bytes hge)

theorem payloadSizes_B (T : TextOracle) (r : Replay) (s : Start) (h : r.WFB T s) (ge : Option End)
    (hge : r.fend.map gameEnd = ge.map Res.ok) :
    payloadSizes (r.game s ge) = .ok (canonTableB s.version r.startBlock.length (r.endLen s.version)) := by
  simpa [Replay.gameAny, canonTableAny, h.v30, h.v22] using payloadSizes_any h.toAny ge (parsedEnd_bytes hge)

theorem payloadSizes_G (T : TextOracle) (r : Replay) (s : Start) (gk : GeckoBlocks) (h : r.WFG T s gk) (ge : Option End)
    (hge : r.fend.map gameEnd = ge.map Res.ok) :
    payloadSizes (r.gameG s ge gk) = .ok (canonTableG s.version r.startBlock.length (r.endLen s.version) gk.total) :=
  payloadSizes_any h.toAny ge (parsedEnd_bytes hge)

theorem rawSize_A (T : TextOracle) (r : Replay) (s : Start) (h : r.WF T s) (ge : Option End)
    (hge : r.fend.map gameEnd = ge.map Res.ok) :
    rawSize (canonTable s.version r.startBlock.length (r.endLen s.version)) (r.game s ge) =
      .ok (r.raw s.version (portOccupancy s)).length := by
  simpa [Replay.gameAny, Replay.rawAny, canonTableAny, h.v30] using rawSize_any h.toAny ge (parsedEnd_bytes hge)

theorem rawSize_B (T : TextOracle) (r : Replay) (s : Start) (h : r.WFB T s) (ge : Option End)
    (hge : r.fend.map gameEnd = ge.map Res.ok) :
    rawSize (canonTableB s.version r.startBlock.length (r.endLen s.version)) (r.game s ge) =
      .ok (r.rawB s.version (portOccupancy s)).length := by
  simpa [Replay.gameAny, Replay.rawAny, canonTableAny, h.v30, h.v22] using rawSize_any h.toAny ge (parsedEnd_bytes hge)

theorem rawSize_C (T : TextOracle) (r : Replay) (s : Start) (h : r.WFC T s) (ge : Option End)
    (hge : r.fend.map gameEnd = ge.map Res.ok) :
    rawSize (canonTableC s.version r.startBlock.length (r.endLen s.version)) (r.game s ge) =
      .ok (r.rawC s.version (portOccupancy s)).length := by
  simpa [Replay.gameAny, Replay.rawAny, canonTableAny, h.v30, h.v22] using rawSize_any h.toAny ge (parsedEnd_bytes hge)

theorem rawSize_G (T : TextOracle) (r : Replay) (s : Start) (gk : GeckoBlocks) (h : r.WFG T s gk) (ge : Option End)
    (hge : r.fend.map gameEnd = ge.map Res.ok) :
    rawSize (canonTableG s.version r.startBlock.length (r.endLen s.version) gk.total) (r.gameG s ge gk) =
      .ok (r.rawG s.version (portOccupancy s) gk).length :=
  rawSize_any h.toAny ge (parsedEnd_bytes hge)

#print axioms payloadSizes_A
#print axioms rawSize_A

/-- **write half of C01 (≥ 3.0, no Gecko block)** -/
theorem write_game_A (T : TextOracle) (r : Replay) (s : Start) (h : r.WF T s) (hmax : assertMaxVersion s.version = .ok ())
    (ge : Option End) (hge : r.fend.map gameEnd = ge.map Res.ok) :
    writeSlp (r.game s ge) = .ok (r.encode s.version (portOccupancy s)) :=
  h.encodeAny_eq _ ▸ write_game_any T r s none h.toAny hmax ge hge

theorem write_game_B (T : TextOracle) (r : Replay) (s : Start) (h : r.WFB T s) (hmax : assertMaxVersion s.version = .ok ())
    (ge : Option End) (hge : r.fend.map gameEnd = ge.map Res.ok) :
    writeSlp (r.game s ge) = .ok (r.encodeB s.version (portOccupancy s)) :=
  h.encodeAny_eq _ ▸ write_game_any T r s none h.toAny hmax ge hge

theorem write_game_G (T : TextOracle) (r : Replay) (s : Start) (gk : GeckoBlocks) (h : r.WFG T s gk)
    (hmax : assertMaxVersion s.version = .ok ()) (ge : Option End) (hge : r.fend.map gameEnd = ge.map Res.ok) :
    writeSlp (r.gameG s ge gk) = .ok (r.encodeG s.version (portOccupancy s) gk) :=
  write_game_any T r s (some gk) h.toAny hmax ge hge

end Peppi
