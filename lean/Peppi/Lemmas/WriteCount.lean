import Peppi.Lemmas.WriteFrame
/-! Writer side, what `raw_size` adds up: `frame_counts` of the expected columns, and the encoded length of the recorder's frame
    events with the same terms in the same gates. -/
namespace Peppi
open Extracted

def countSome {α} (l : List (Option α)) : Nat := (l.filter Option.isSome).length

theorem countSome_cons {α} (a : Option α) (l : List (Option α)) : countSome (a :: l) = (if a.isSome then 1 else 0) + countSome l := by
  cases a
  · exact (Nat.zero_add _).symm
  · exact Nat.add_comm _ 1

theorem presentFrom_length (c0 : Nat) (l : List (Option CharOcc)) : (presentFrom c0 l).length = countSome l := by
  induction l generalizing c0 with
  | nil => rfl
  | cons a t ih => cases a <;> simp [presentFrom, countSome_cons, ih (c0+1)]; omega

/-- `len - validity.unset_bits()` on an expected slot = number of frames in which the character is present -/
theorem valid_count (hist : List (Option CharOcc)) : hist.length - unsetBits (validOf hist) = countSome hist := by
  have hsplit := List.length_eq_countP_add_countP (l := hist) Option.isSome
  simp only [List.countP_eq_length_filter] at hsplit
  unfold validOf unsetBits countSome
  by_cases hall : hist.all Option.isSome = true
  · rw [if_pos hall, List.filter_eq_self.mpr (fun a ha => (List.all_eq_true.mp hall) a ha)]
    rfl
  · rw [if_neg hall]
    -- the unset bits are the absent entries
    have e : ((hist.map Option.isSome).filter (· == false)).length = (hist.filter (fun a => decide ¬ a.isSome = true)).length := by
      rw [List.filter_map, List.length_map]
      congr 1
      apply List.filter_congr
      intro x _
      cases x <;> rfl
    simp only [e]
    omega

theorem sum_map_add {α} (l : List α) (a b : α → Nat) : (l.map fun c => a c + b c).sum = (l.map a).sum + (l.map b).sum := by
  induction l with
  | nil => rfl
  | cons x t ih =>
    simp only [List.map_cons, List.sum_cons, ih]
    omega

theorem countSome_range (l : List (Option CharOcc)) (n : Nat) (hn : l.length = n) :
    ((List.range n).map fun c => if ((l[c]?).join).isSome then 1 else 0).sum = countSome l := by
  subst hn
  rw [map_range_join l fun a => if a.isSome then 1 else 0]
  induction l with
  | nil => rfl
  | cons a t ih => rw [List.map_cons, List.sum_cons, ih, countSome_cons]

/-- total presence, counted per slot over the history = counted per frame -/
theorem presence_swap (n : Nat) (h : List FrameOcc) (hn : ∀ o ∈ h, o.chars.length = n) :
    ((List.range n).map fun c => countSome (histAt h c)).sum = (h.map fun o => countSome o.chars).sum := by
  induction h with
  | nil => simp [histAt, countSome, List.map_const', List.sum_replicate_nat]
  | cons o t ih =>
    have : ((List.range n).map fun c => countSome (histAt (o :: t) c)) =
        (List.range n).map fun c => (if ((o.chars[c]?).join).isSome then 1 else 0) + countSome (histAt t c) :=
      List.map_congr_left fun c _ => countSome_cons _ _
    rw [this, sum_map_add, countSome_range o.chars n (hn o (by simp)), ih (fun o' ho' => hn o' (by simp [ho'])),
      List.map_cons, List.sum_cons]

#print axioms presence_swap

theorem sum_flatSlots (g : DCols → Nat) (P : List PCols) :
    (P.map fun p => g p.leader + (match p.follower with | some d => g d | none => 0)).sum = ((flatSlots P).map g).sum := by
  induction P with
  | nil => rfl
  | cons p ps ih =>
    simp only [List.map_cons, List.sum_cons, flatSlots, List.flatMap_cons, List.map_append, List.sum_append] at ih ⊢
    rw [ih]
    cases hf : p.follower <;> simp [PCols.slots, hf]

theorem frameData_A (v : Ver) (shape : List PortOccupancy) (h : List FrameOcc) (hn : ∀ o ∈ h, o.chars.length = nSlots shape) :
    (frameCounts (expFrames v shape h)).frameData = (h.map fun o => countSome o.chars).sum := by
  have h1 : (frameCounts (expFrames v shape h)).frameData =
      ((flatSlots (expPorts shape h)).map fun d => h.length - unsetBits d.valid).sum := by
    rw [← sum_flatSlots]
    simp only [frameCounts, expFrames, FCols.len, List.length_map]
    rfl
  rw [h1, (expPorts_shape shape h).2, expFlat, List.map_map, ← presence_swap (nSlots shape) h hn]
  congr 1
  apply List.map_congr_left
  intro c _
  simpa [histAt, colsOf] using valid_count (histAt h c)

/-- `frame_counts` of the expected columns; items are counted only where the version has an item column -/
theorem frameCounts_exp (v : Ver) (shape : List PortOccupancy) (h : List FrameOcc) (hn : ∀ o ∈ h, o.chars.length = nSlots shape) :
    frameCounts (expFrames v shape h) =
      { frames := h.length, frameData := (h.map fun o => countSome o.chars).sum,
        items := if v.gte 3 0 then (h.flatMap (·.items)).length else 0 } := by
  rw [← frameData_A v shape h hn]
  cases h30 : v.gte 3 0 <;> simp [frameCounts, expFrames, FCols.len, h30]

#print axioms frameData_A
theorem encEvents_length_of_size (es : List (Nat × Bytes)) (n : Nat) (h : ∀ e ∈ es, e.2.length = n) :
    (encEvents es).length = es.length * (1 + n) := by
  induction es with
  | nil => exact (Nat.zero_mul _).symm
  | cons e t ih =>
    have hih : (encEvents t).length = t.length * (1 + n) := ih fun e' he' => h e' (List.mem_cons_of_mem _ he')
    have he : (encEvent e).length = 1 + n := by
      rw [encEvent, List.length_cons, h e List.mem_cons_self]
      omega
    rw [encEvents_cons, List.length_append, he, hih, List.length_cons, Nat.succ_mul]
    omega

theorem charEvents_length (post : Bool) (v : Ver) (id : Int) (sl : List (Nat × Bool × Nat)) (present : List (Nat × CharOcc))
    (hp : ∀ co ∈ present, co.1 < sl.length ∧ OccOK v co.2) :
    (encEvents (charEvents post v id sl present)).length =
      present.length * (1 + (6 + rowSize v (if post then Post.readPush else Pre.readPush))) := by
  rw [encEvents_length_of_size _ (6 + rowSize v (if post then Post.readPush else Pre.readPush)), charEvents, List.length_map]
  intro e he
  obtain ⟨co, hco, rfl⟩ := List.mem_map.mp he
  obtain ⟨hc, hocc⟩ := hp co hco
  rw [charEvent, List.getElem?_eq_getElem hc]
  cases post
  · exact encChar_length _ _ _ _ _ _ hocc.1
  · exact encChar_length _ _ _ _ _ _ hocc.2

/-- encoded size of one frame: every term is a count times the size of one event (its code and its payload), and that size is
    0 where the event is not written, which is how `raw_size` (`map_or(0, …)`) counts it -/
theorem frameEventsIf_length (fs fe : Bool) (v : Ver) (shape : List PortOccupancy) (o : FrameOcc) (ho : o.OK v (nSlots shape)) :
    (encEvents (frameEventsIf fs fe v shape o)).length =
      (if fs then 1 + (4 + rowSize v Start.readPush) else 0) + countSome o.chars * (1 + (6 + rowSize v Pre.readPush))
        + o.items.length * (if fe then 1 + (4 + rowSize v Item.readPush) else 0)
        + countSome o.chars * (1 + (6 + rowSize v Post.readPush)) + (if fe then 1 + (4 + rowSize v End.readPush) else 0) := by
  have hp : ∀ co ∈ presentFrom 0 o.chars, co.1 < (slotList shape 0).length ∧ OccOK v co.2 := presentFrom_ok v (nSlots shape) o ho
  have hplain : ∀ (c : Bool) (code : Nat) (L : List Fld) (row : Row), RowOK v L row →
      (encEvents (if c then [(code, encPlain v L o.id row)] else [])).length = if c then 1 + (4 + rowSize v L) else 0 := by
    intro c code L row hrow
    cases c
    · rfl
    · simp only [↓reduceIte, encEvents_cons, encEvents_nil, List.append_nil, encEvent, List.length_cons, encPlain_length _ _ _ _ hrow]
      exact Nat.add_comm _ 1
  have hitems : (encEvents (if fe then o.items.map fun r => (EV_ITEM, encPlain v Item.readPush o.id r) else [])).length =
      o.items.length * (if fe then 1 + (4 + rowSize v Item.readPush) else 0) := by
    cases fe
    · rfl
    · rw [if_pos rfl, if_pos rfl, encEvents_length_of_size _ (4 + rowSize v Item.readPush), List.length_map]
      intro e he
      obtain ⟨r, hr, rfl⟩ := List.mem_map.mp he
      exact encPlain_length _ _ _ _ (ho.items r hr)
  simp only [frameEventsIf, encEvents_append, List.length_append, hplain _ _ _ _ ho.start, hplain _ _ _ _ ho.fend, hitems,
    charEvents_length _ v o.id _ _ hp, presentFrom_length, Bool.false_eq_true, ↓reduceIte]

theorem framesIf_length (fs fe : Bool) (v : Ver) (shape : List PortOccupancy) (h : List FrameOcc) (hok : ∀ o ∈ h, o.OK v (nSlots shape)) :
    (encEvents (h.flatMap (frameEventsIf fs fe v shape))).length =
      h.length * (if fs then 1 + (4 + rowSize v Start.readPush) else 0)
        + (h.map fun o => countSome o.chars).sum * (1 + (6 + rowSize v Pre.readPush))
        + (h.flatMap (·.items)).length * (if fe then 1 + (4 + rowSize v Item.readPush) else 0)
        + (h.map fun o => countSome o.chars).sum * (1 + (6 + rowSize v Post.readPush))
        + h.length * (if fe then 1 + (4 + rowSize v End.readPush) else 0) := by
  induction h with
  | nil => simp [encEvents]
  | cons o t ih =>
    rw [List.flatMap_cons, encEvents_append, List.length_append, frameEventsIf_length fs fe v shape o (hok o (by simp)),
      ih (fun o' h' => hok o' (by simp [h']))]
    simp only [List.length_cons, List.map_cons, List.sum_cons, List.flatMap_cons, List.length_append, Nat.add_mul, Nat.succ_mul]
    omega

theorem framesA_length (v : Ver) (shape : List PortOccupancy) (h : List FrameOcc) (hok : ∀ o ∈ h, o.OK v (nSlots shape)) :
    (encEvents (h.flatMap (frameEventsA v shape))).length =
      h.length * (5 + rowSize v Start.readPush) + (h.map fun o => countSome o.chars).sum * (7 + rowSize v Pre.readPush)
        + (h.flatMap (·.items)).length * (5 + rowSize v Item.readPush)
        + (h.map fun o => countSome o.chars).sum * (7 + rowSize v Post.readPush) + h.length * (5 + rowSize v End.readPush) := by
  rw [← frameEventsIf_A, framesIf_length true true v shape h hok]
  simp only [↓reduceIte, ← Nat.add_assoc, Nat.reduceAdd]

theorem framesB_length (v : Ver) (shape : List PortOccupancy) (h : List FrameOcc) (hok : ∀ o ∈ h, o.OK v (nSlots shape)) :
    (encEvents (h.flatMap (frameEventsB v shape))).length =
      h.length * (5 + rowSize v Start.readPush) + (h.map fun o => countSome o.chars).sum * (7 + rowSize v Pre.readPush)
        + (h.map fun o => countSome o.chars).sum * (7 + rowSize v Post.readPush) := by
  rw [← frameEventsIf_B, framesIf_length true false v shape h hok]
  simp only [↓reduceIte, Bool.false_eq_true, Nat.mul_zero, Nat.add_zero, ← Nat.add_assoc, Nat.reduceAdd]

#print axioms framesA_length
end Peppi
