import Peppi.Lemmas.GenInst
import Peppi.Lemmas.Trunc
/-! The canonical file of a well-formed replay is the irregular file with nothing irregular in it: `C04_any` is `readP_irregular`
    at `Irr.canon`, and the statements for one regime are `C04_any` at that regime.  Also here: C07 for the full read, and the
    files of the ≥ 3.0 regime with another event stream (`WFS`, `WFU`, `rawJ`). -/
namespace Peppi
open Extracted

/-- the version's own table, the recorder's frame events in an admissible order `es`, nothing after Game End -/
def Irr.ofOrder (r : Replay) (s : Start) (gk : Option GeckoBlocks) (es : List (Nat × Bytes)) : Irr :=
  { table := canonTableAny s.version r.startBlock.length (r.endLen s.version) gk, mixed := es, junk := [] }

/-- no irregularity -/
def Irr.canon (r : Replay) (s : Start) (gk : Option GeckoBlocks) : Irr :=
  Irr.ofOrder r s gk (canonEventsAny s.version (portOccupancy s) r.frames)

variable {T : TextOracle} {r : Replay} {s : Start} {gk : Option GeckoBlocks}

theorem fileIrr_canon_eq (r : Replay) (s : Start) (gk : Option GeckoBlocks) :
    r.fileIrr s gk (Irr.canon r s gk) = r.gfileCanon s.version (portOccupancy s) gk := by
  cases gk with
  | none => rfl
  | some g =>
    simp only [Replay.fileIrr, Replay.gfileCanon, Replay.gfile, Irr.canon, Irr.ofOrder, GeckoBlocks.encU_nil, Option.map_some,
      Option.getD_some]
    rfl

theorem fileIrr_canon_raw (h : r.WFAny T s gk) :
    (r.fileIrr s gk (Irr.canon r s gk)).raw = r.rawAny s.version (portOccupancy s) gk := by
  rw [fileIrr_canon_eq, r.gfileCanon_raw _ h.gecko30 h.doubled_fend]

theorem fileIrr_canon (h : r.WFAny T s gk) :
    (r.fileIrr s gk (Irr.canon r s gk)).encode = r.encodeAny s.version (portOccupancy s) gk := by
  rw [fileIrr_canon_eq, r.gfileCanon_encode _ h.gecko30 h.doubled_fend]

theorem Irr.ofOrder_ok (h : r.WFAny T s gk) {es : List (Nat × Bytes)} (hc : CanonUpToOrder s r es)
    (hraw : (r.fileIrr s gk (Irr.ofOrder r s gk es)).raw.length < 256 ^ 4) : (Irr.ofOrder r s gk es).OK T r s gk := by
  have hcodes := canonUpToOrder_codes h hc
  -- the codes of `es` are all known: nothing is erased
  have hlonger : Longer (es.filter fun e => isKnown e.1) es := by
    rw [filter_isKnown_frameEvs hcodes]
    exact Longer.refl es
  have hlen := canonTableAny_length s.version r.startBlock.length (r.endLen s.version) gk
  exact {
    base := h
    tableOK := canonTableAny_ok h
    nodup := canonTableAny_nodup _ _ _ _
    tableLen := by
      simp only [Irr.ofOrder]
      omega
    declStart := canonTableAny_start _ _ _ _
    declEnd := canonTableAny_end _ _ _ _
    declSplit := by rintro g rfl; simp [Irr.ofOrder, canonTableAny, canonTableG]
    erase := ⟨es, hlonger, hc⟩
    declared := fun e he =>
      ⟨isFrameEv_byte (hcodes e he), (canonUpToOrder_sizes h hc r.startBlock.length (r.endLen s.version) e he).2⟩
    preOK := by simp [Irr.ofOrder]
    junkOK := by simp [Irr.ofOrder]
    rawLen := hraw }

theorem Irr.canon_ok (h : r.WFAny T s gk) : (Irr.canon r s gk).OK T r s gk := by
  have hraw : (r.fileIrr s gk (Irr.canon r s gk)).raw.length < 256 ^ 4 := by
    rw [fileIrr_canon_raw h]
    exact h.rawLen
  exact Irr.ofOrder_ok h (Or.inl rfl) hraw

/-- **C04, every version**: the reader consumes the canonical file of a well-formed replay to its last byte and returns
    exactly the expected columnar game (ids, presence, rows, item grouping, column lengths; Gecko codes when present). -/
theorem C04_any (T : TextOracle) (r : Replay) (s : Start) (gk : Option GeckoBlocks) (h : r.WFAny T s gk) :
    ∃ ge : Option End, r.fend.map gameEnd = ge.map Res.ok ∧
      readP T {} (r.encodeAny s.version (portOccupancy s) gk) = .ok (r.gameAny s ge gk, []) := by
  rw [← fileIrr_canon h]
  exact readP_irregular T r s gk _ (Irr.canon_ok h)

/-- `C04_any` for the parsed Game End at hand (`h.parsedEnd` has one) -/
theorem readP_canon (h : r.WFAny T s gk) {ge : Option End} (hge : r.fend.map gameEnd = ge.map Res.ok) :
    readP T {} (r.encodeAny s.version (portOccupancy s) gk) = .ok (r.gameAny s ge gk, []) := by
  obtain ⟨ge', hge', hread⟩ := C04_any T r s gk h
  cases parsedEnd_unique hge hge'
  exact hread

/-- **C04, file level, ≥ 3.0, no Gecko block** -/
theorem readP_encode_A (T : TextOracle) (r : Replay) (s : Start) (h : r.WF T s) :
    ∃ ge : Option End, r.fend.map gameEnd = ge.map Res.ok ∧
      readP T {} (r.encode s.version (portOccupancy s)) = .ok (r.game s ge, []) :=
  h.encodeAny_eq _ ▸ C04_any T r s none h.toAny

/-- **C04, file level, 2.2 ≤ v < 3.0** -/
theorem readP_encode_B (T : TextOracle) (r : Replay) (s : Start) (h : r.WFB T s) :
    ∃ ge : Option End, r.fend.map gameEnd = ge.map Res.ok ∧
      readP T {} (r.encodeB s.version (portOccupancy s)) = .ok (r.game s ge, []) :=
  h.encodeAny_eq _ ▸ C04_any T r s none h.toAny

/-- **C04, file level, v < 2.2** -/
theorem readP_encode_C (T : TextOracle) (r : Replay) (s : Start) (h : r.WFC T s) :
    ∃ ge : Option End, r.fend.map gameEnd = ge.map Res.ok ∧
      readP T {} (r.encodeC s.version (portOccupancy s)) = .ok (r.game s ge, []) :=
  h.encodeAny_eq _ ▸ C04_any T r s none h.toAny

/-- **C04, file level, ≥ 3.3 with a Gecko block** -/
theorem readP_encode_G (T : TextOracle) (r : Replay) (s : Start) (gk : GeckoBlocks) (h : r.WFG T s gk) :
    ∃ ge : Option End, r.fend.map gameEnd = ge.map Res.ok ∧
      readP T {} (r.encodeG s.version (portOccupancy s) gk) = .ok (r.gameG s ge gk, []) :=
  C04_any T r s (some gk) h.toAny

#print axioms readP_encode_B
#print axioms readP_encode_C
#print axioms readP_encode_G

/-- **C04, file level, ≥ 3.0**: bytes in, columnar game out -/
theorem read_encode_A (T : TextOracle) (r : Replay) (s : Start) (h : r.WF T s) :
    ∃ ge : Option End, r.fend.map gameEnd = ge.map Res.ok ∧
      readSlp T {} (r.encode s.version (portOccupancy s)) = .ok (r.game s ge) := by
  obtain ⟨ge, h1, h2⟩ := readP_encode_A T r s h
  exact ⟨ge, h1, readSlp_of_readP h2 false⟩

#print axioms read_encode_A

theorem parseStart_enc (T : TextOracle) (r : Replay) (s : Start) (h : r.WF T s) (rest : Bytes) :
    let v := s.version
    let t := canonTable v r.startBlock.length (r.endLen v)
    parseStart T ([0x35, UInt8.ofNat (3 * t.length + 1)] ++ encTable t ++ (encEvent (EV_GAME_START, r.startBlock) ++ rest)) =
      .ok ({ st := { sizes := t.reverse, splitRaw := [], splitActual := 0, portIdx := portIdxOf (portOccupancy s), start := s,
                     fend := none, frames := FCols.new v (portOccupancy s), metadata := none, gecko := none, doubleGameEnd := none },
             bytesRead := 1 + (3 * t.length + 1) + r.startBlock.length + 1 }, rest) :=
  parseStart_gen T _ r.startBlock s (r.endLen s.version) (hs := h.start)
    (ht := canonTable_ok _ _ _ h.startLen h.endLenOK (rows_bounded _)) (hlen := by simp [canonTable])
    (hnd := canonTable_nodup _ _ _) (hGS := by simp [canonTable]) (hGE := by simp [canonTable]) rest

theorem parseStart_encG (T : TextOracle) (r : Replay) (s : Start) (gk : GeckoBlocks) (h : r.WFG T s gk) (rest : Bytes) :
    let t := canonTableG s.version r.startBlock.length (r.endLen s.version) gk.total
    parseStart T ([0x35, UInt8.ofNat (3 * t.length + 1)] ++ encTable t ++ (encEvent (EV_GAME_START, r.startBlock) ++ rest)) =
      .ok (ps0G r s gk, rest) :=
  parseStart_gen T _ r.startBlock s (r.endLen s.version) (hs := h.start)
    (ht := canonTableG_ok _ _ _ _ h.startLen h.endLenOK h.totalNZ) (hlen := by simp [canonTableG, canonTable])
    (hnd := canonTableG_nodup _ _ _ _) (hGS := by simp [canonTableG, canonTable]) (hGE := by simp [canonTableG, canonTable]) rest

#print axioms parseStart_encG

theorem C07_of_read {T : TextOracle} {x : Bytes} {g : Game} (h : readP T {} x = .ok (g, [])) (hash : Bool) (n : Nat)
    (hn : n < x.length) : ∃ e, readSlp T { skipFrames := false, computeHash := hash } (x.take n) = .err e :=
  C07_slp_general T _ x g (readP_hash T false false hash ▸ h) n hn

/-- **C07, `.slp`, full parse, ≥ 3.0 regime**: every proper prefix of a well-formed file is rejected with an error
    (not a game, not a panic), whatever the hash option -/
theorem C07_slp_A (T : TextOracle) (r : Replay) (s : Start) (h : r.WF T s) (hash : Bool) (n : Nat)
    (hn : n < (r.encode s.version (portOccupancy s)).length) :
    ∃ e, readSlp T { skipFrames := false, computeHash := hash } ((r.encode s.version (portOccupancy s)).take n) = .err e := by
  obtain ⟨ge, _, hok⟩ := readP_encode_A T r s h
  exact C07_of_read hok hash n hn

#print axioms C07_slp_A

/-- **C07, 2.2 ≤ v < 3.0** -/
theorem C07_slp_B (T : TextOracle) (r : Replay) (s : Start) (h : r.WFB T s) (hash : Bool) (n : Nat)
    (hn : n < (r.encodeB s.version (portOccupancy s)).length) :
    ∃ e, readSlp T { skipFrames := false, computeHash := hash } ((r.encodeB s.version (portOccupancy s)).take n) = .err e := by
  obtain ⟨ge, _, hok⟩ := readP_encode_B T r s h
  exact C07_of_read hok hash n hn

/-- **C07, v < 2.2** -/
theorem C07_slp_C (T : TextOracle) (r : Replay) (s : Start) (h : r.WFC T s) (hash : Bool) (n : Nat)
    (hn : n < (r.encodeC s.version (portOccupancy s)).length) :
    ∃ e, readSlp T { skipFrames := false, computeHash := hash } ((r.encodeC s.version (portOccupancy s)).take n) = .err e := by
  obtain ⟨ge, _, hok⟩ := readP_encode_C T r s h
  exact C07_of_read hok hash n hn

theorem C07_slp_G (T : TextOracle) (r : Replay) (s : Start) (gk : GeckoBlocks) (h : r.WFG T s gk) (hash : Bool)
    (n : Nat) (hn : n < (r.encodeG s.version (portOccupancy s) gk).length) :
    ∃ err, readSlp T { skipFrames := false, computeHash := hash } ((r.encodeG s.version (portOccupancy s) gk).take n) = .err err := by
  obtain ⟨ge, _, hok⟩ := readP_encode_G T r s gk h
  exact C07_of_read hok hash n hn

theorem ps0U_eq (r : Replay) (s : Start) (u : Unknowns) :
    ps0U r s u = ps0T (canonTableU s.version r.startBlock.length (r.endLen s.version) u) r.startBlock.length s := rfl

/-- the stream theorem and the junk theorem in one (≥ 3.0, no Gecko block); `junk` may be empty -/
theorem readP_stream_junk (T : TextOracle) (r : Replay) (s : Start) (u : Unknowns) (F : FCols) (h : r.WFS T s u F) (junk : Bytes)
    (hjunk : junk ≠ [] → (∃ e, r.fend = some e) ∧ r.doubled = false ∧ ¬ looksLikeEnd s.version junk)
    (hraw : (r.rawJ s.version u junk).length < 256 ^ 4) :
    ∃ ge : Option End, r.fend.map gameEnd = ge.map Res.ok ∧
      readP T {} (r.encodeJ s.version u junk) = .ok (r.gameF s ge F, []) := by
  have hb := h.base
  let t := canonTableU s.version r.startBlock.length (r.endLen s.version) u
  have hnojunk : r.doubled = true → junk = [] := by
    intro hd
    by_cases hj : junk = []
    · exact hj
    · rw [(hjunk hj).2.1] at hd
      cases hd
  have hfile : (r.gfile t (encEvents u.mixed) junk).raw = r.rawJ s.version u junk := by
    rw [GFile.raw, r.gfile_endPart _ _ _ fun hd => ⟨hb.toAny.doubled_fend hd, hnojunk hd⟩]
    simp [Replay.gfile, Replay.rawJ, Replay.rawU, tablePrefix, t]
  have hrawF : (r.gfile t (encEvents u.mixed) junk).raw.length < 256 ^ 4 := by
    rw [hfile]
    exact hraw
  have hlt : s.version.lt 3 0 = false := by simp [Ver.lt, hb.v30]
  have hGS : (EV_GAME_START, r.startBlock.length) ∈ t := List.mem_append_left _ (by simp [canonTable])
  have hGE : (EV_GAME_END, r.endLen s.version) ∈ t := List.mem_append_left _ (by simp [canonTable])
  have hrun := h.run
  rw [ps0U_eq] at hrun
  have hdecl : ∀ e ∈ u.mixed, e.1 < 256 ∧ e.1 ≠ EV_SPLITTER ∧ e.1 ≠ EV_GAME_END ∧
      sizeOfEv (ps0T t r.startBlock.length s).st.sizes e.1 = some e.2.length := by
    intro e he
    obtain ⟨hbyte, hns, hne, hmem⟩ := h.declared e he
    exact ⟨hbyte, hns, hne, sizeOfEv_reverse t h.nodup _ _ hmem⟩
  have hmid := MidRun.events (ps0T t r.startBlock.length s) u.mixed _ hdecl hrun
  -- what `readP_replay` asks of the state behind the stream holds by `rfl`: only the frames have changed
  obtain ⟨ge, hge, hread⟩ := readP_replay T r s t (encEvents u.mixed) junk _ hb.start h.tableOK h.nodup h.tableLen hGS hGE hmid
    (hbytes := rfl) (hsizes := rfl) (hst := rfl) (hfend := rfl) (hmeta := rfl) (hdge := rfl)
    (hend := fun e he => (hb.endOK e he).2.2) (hdbl := hb.doubledOK) (hjunk := hjunk) (hmd := hb.metadata) (hraw := hrawF)
  refine ⟨ge, hge, ?_⟩
  rw [Replay.encodeJ, ← hfile]
  refine hread.trans ?_
  simp [Replay.gameF, Replay.game, ps0T, PState.closed, hlt]

/-- **general file-level read theorem** (≥ 3.0, no Gecko block): any event stream `u.mixed` between Game Start and Game End whose
    events are declared in the payload table and which the handler folds to the frame set `F` reads to the game of the history
    with frames `F`.  Canonical files, unknown events and permuted frame bodies are instances; every version: `readP_irregular`. -/
theorem readP_encode_stream (T : TextOracle) (r : Replay) (s : Start) (u : Unknowns) (F : FCols) (h : r.WFS T s u F) :
    ∃ ge : Option End, r.fend.map gameEnd = ge.map Res.ok ∧
      readP T {} (r.encodeU s.version u) = .ok (r.gameF s ge F, []) := by
  simpa [Replay.encodeJ, Replay.rawJ, Replay.encodeU] using
    readP_stream_junk T r s u F h [] (fun hj => absurd rfl hj) (by simpa [Replay.rawJ] using h.rawLen)

#print axioms readP_encode_stream

/-- **C17 (junk after Game End)**: a finished, non-doubled replay with extra bytes between its Game End and the end of the raw
    element reads to the same game as without them -/
theorem readP_encode_junk (T : TextOracle) (r : Replay) (s : Start) (u : Unknowns) (F : FCols) (h : r.WFS T s u F)
    (e : Bytes) (hfe : r.fend = some e) (hd : r.doubled = false) (junk : Bytes) (hj : 0 < junk.length)
    (hnot : ¬ looksLikeEnd s.version junk) (hrawJ : (r.rawJ s.version u junk).length < 256 ^ 4) :
    ∃ ge, gameEnd e = .ok ge ∧ readP T {} (r.encodeJ s.version u junk) = .ok (r.gameF s (some ge) F, []) := by
  obtain ⟨ge, hge, hread⟩ := readP_stream_junk T r s u F h junk (fun _ => ⟨⟨e, hfe⟩, hd, hnot⟩) hrawJ
  obtain ⟨g, hg⟩ := (h.base.endOK e hfe).2.2
  cases parsedEnd_unique hge (parsedEnd_some hfe hg)
  exact ⟨g, hg, hread⟩

#print axioms readP_encode_junk

/-- **C08 (unknown events), file level** -/
theorem readP_encode_U (T : TextOracle) (r : Replay) (s : Start) (u : Unknowns) (h : r.WFU T s u) :
    ∃ ge : Option End, r.fend.map gameEnd = ge.map Res.ok ∧
      readP T {} (r.encodeU s.version u) = .ok (r.game s ge, []) := by
  have hb := h.base
  let i : Irr := { table := canonTableU s.version r.startBlock.length (r.endLen s.version) u, mixed := u.mixed, junk := [] }
  have hcanon : canonEventsAny s.version (portOccupancy s) r.frames = r.frames.flatMap (frameEventsA s.version (portOccupancy s)) := by
    simp [canonEventsAny, hb.v30]
  have hfile : (r.fileIrr s none i).raw = r.rawU s.version u := by
    rw [r.fileIrr_raw s none i hb.toAny.doubled_fend rfl]
    simp [i, Replay.fileIrr, Replay.rawU, tablePrefix]
  have hrawLen : (r.fileIrr s none i).raw.length < 256 ^ 4 := by
    rw [hfile]
    exact h.rawLen
  -- erasing the unknown events leaves the recorder's events themselves (`h.erase`), none longer
  have hlonger : Longer (i.mixed.filter fun e => isKnown e.1) (r.frames.flatMap (frameEventsA s.version (portOccupancy s))) := by
    rw [show i.mixed = u.mixed from rfl, h.erase]
    exact Longer.refl _
  -- an unknown event is declared in `u.extra`, a known one is a frame event of the history and declared in the version's table
  have hdeclared : ∀ e ∈ i.mixed, e.1 < 256 ∧ (e.1, e.2.length) ∈ i.table := by
    intro e he
    cases hk : isKnown e.1 with
    | false =>
      obtain ⟨hbyte, hmem⟩ := h.declared e he hk
      exact ⟨hbyte, List.mem_append_right _ hmem⟩
    | true =>
      have hm : e ∈ r.frames.flatMap (frameEventsA s.version (portOccupancy s)) := by
        rw [← h.erase]
        exact List.mem_filter.mpr ⟨he, hk⟩
      obtain ⟨o, ho, heo⟩ := List.mem_flatMap.mp hm
      obtain ⟨hfe, hmem⟩ := frameEventsA_canon (hb.frames o ho) r.startBlock.length (r.endLen s.version) e heo
      exact ⟨isFrameEv_byte hfe, List.mem_append_left _ hmem⟩
  have hok : i.OK T r s none :=
    { base := hb.toAny, tableOK := h.tableOK, nodup := h.nodup, tableLen := h.tableLen
      declStart := List.mem_append_left _ (by simp [canonTable])
      declEnd := List.mem_append_left _ (by simp [canonTable])
      declSplit := nofun
      erase := ⟨_, hlonger, Or.inl hcanon.symm⟩
      declared := hdeclared
      preOK := by simp [i]
      junkOK := by simp [i]
      rawLen := hrawLen }
  have := readP_irregular T r s none i hok
  rwa [GFile.encode, hfile] at this

#print axioms readP_encode_U

/-- **C08**: the file with unknown events parses to exactly the game of the file without them -/
theorem C08_unknown_A (T : TextOracle) (r : Replay) (s : Start) (u : Unknowns) (h : r.WFU T s u) :
    readSlp T { skipFrames := false, computeHash := false } (r.encodeU s.version u) =
      readSlp T { skipFrames := false, computeHash := false } (r.encode s.version (portOccupancy s)) := by
  obtain ⟨ge, hge, hU⟩ := readP_encode_U T r s u h
  obtain ⟨ge', hge', hA⟩ := readP_encode_A T r s h.base
  cases parsedEnd_unique hge hge'
  simp only [readSlp_of_readP hU false, readSlp_of_readP hA false, Bool.false_eq_true, ↓reduceIte]

#print axioms C08_unknown_A

end Peppi
