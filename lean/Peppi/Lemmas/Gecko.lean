import Peppi.Lemmas.ByteLayer
/-! The message splitter: one splitter block, whatever command it wraps, and the Gecko-codes block, a run of splitter events
    reassembled into one Gecko event. -/
namespace Peppi
open Extracted

/-- payload of one message-splitter event of the Gecko block: `splitPayloadC` at `EV_GECKO` -/
def splitPayload (data : Bytes) (actual : Nat) (final : Bool) : Bytes :=
  data ++ (toBE 2 actual ++ [UInt8.ofNat EV_GECKO, if final then 1 else 0])

/-- a splitter block that names wrapped command `c` -/
def splitPayloadC (data : Bytes) (actual : Nat) (final : Bool) (c : Nat) : Bytes :=
  data ++ (toBE 2 actual ++ [UInt8.ofNat c, if final then 1 else 0])

theorem splitPayload_eq (data : Bytes) (actual : Nat) (final : Bool) :
    splitPayload data actual final = splitPayloadC data actual final EV_GECKO := rfl

theorem splitPayloadC_length (data : Bytes) (actual : Nat) (final : Bool) (c : Nat) (hd : data.length = 512) :
    (splitPayloadC data actual final c).length = 516 := by
  simp [splitPayloadC, toBE_length, hd]

theorem splitPayload_length (data : Bytes) (actual : Nat) (final : Bool) (hd : data.length = 512) :
    (splitPayload data actual final).length = 516 := splitPayloadC_length data actual final _ hd

/-- `handle_splitter_event` on a block of 512 data bytes; a final block names the wrapped command (a byte, hence `c % 256`) -/
theorem handleSplitter_payload (st : PState) (data : Bytes) (actual : Nat) (final : Bool) (c : Nat) (hd : data.length = 512)
    (ha : actual ≤ 512) (hsum : st.splitActual + actual < 2 ^ 32) :
    handleSplitter (splitPayloadC data actual final c) st =
      .ok (if final then some (c % 256) else none,
           { st with splitRaw := st.splitRaw ++ data, splitActual := st.splitActual + actual }) := by
  have hl := splitPayloadC_length data actual final c hd
  have h2 : (toBE 2 actual).length = 2 := toBE_length 2 actual
  -- the four reads of `handle_splitter_event` on `data ++ (size ++ [wrapped, final])`
  have hdrop : (splitPayloadC data actual final c).drop 512 = toBE 2 actual ++ [UInt8.ofNat c, if final then 1 else 0] :=
    List.drop_left' hd
  have hget (k : Nat) : (splitPayloadC data actual final c).getD (512 + (2 + k)) 0 = [UInt8.ofNat c, if final then 1 else 0].getD k 0 := by
    have hk : (toBE 2 actual).length ≤ 2 + k := by omega
    rw [List.getD_eq_getElem?_getD, List.getD_eq_getElem?_getD, ← List.getElem?_drop, hdrop,
      List.getElem?_append_right hk, h2, Nat.add_sub_cancel_left]
  have hlt : actual < 256 ^ 2 := by omega
  rw [handleSplitter, hdrop, List.take_left' h2, fromBE_toBE 2 actual hlt, hget 0, hget 1, hl]
  simp only [ne_eq, not_true_eq_false, ↓reduceIte, gt_iff_lt, ge_iff_le, Nat.not_lt.2 ha, Nat.not_le.2 hsum]
  rw [splitPayloadC, List.take_left' hd]
  cases final
  · rfl
  · simp only [List.getD_cons_zero, List.getD_cons_succ, UInt8.toNat_ofNat']
    rfl

/-- the Gecko case -/
theorem handleSplitter_block (st : PState) (data : Bytes) (actual : Nat) (final : Bool) (hd : data.length = 512)
    (ha : actual ≤ 512) (hsum : st.splitActual + actual < 2 ^ 32) :
    handleSplitter (splitPayload data actual final) st =
      .ok (if final then some EV_GECKO else none,
           { st with splitRaw := st.splitRaw ++ data, splitActual := st.splitActual + actual }) :=
  handleSplitter_payload st data actual final EV_GECKO hd ha hsum

/-- **`parse_event` on a message-splitter event**: a non-final block is accumulated; a final block hands the reassembled message
    to the handler of the wrapped command and empties the accumulator -/
theorem parseEvent_splitter (ps : ParseState) (data : Bytes) (actual : Nat) (final : Bool) (c : Nat) (rest : Bytes)
    (hc : c < 256) (hd : data.length = 512) (ha : actual ≤ 512) (hsum : ps.st.splitActual + actual < 2 ^ 32)
    (hsz : sizeOfEv ps.st.sizes EV_SPLITTER = some 516) :
    parseEvent ps (encEvent (EV_SPLITTER, splitPayloadC data actual final c) ++ rest) =
      match (if final then handleEvent { ps.st with splitRaw := [], splitActual := ps.st.splitActual + actual } c (ps.st.splitRaw ++ data)
             else .ok { ps.st with splitRaw := ps.st.splitRaw ++ data, splitActual := ps.st.splitActual + actual }) with
      | .ok st' => .ok ((if final then c else EV_SPLITTER, { st := st', bytesRead := ps.bytesRead + 516 + 1 }), rest)
      | .err e => .err e
      | .panic p => .panic p := by
  have hl := splitPayloadC_length data actual final c hd
  -- command byte, size from the table, payload, the splitter's bookkeeping
  rw [parseEvent, encEvent, List.cons_append, Rd.bind_ok (Rd.u8_ofNat (show EV_SPLITTER < 256 by decide) _)]
  simp only [hsz, ↓reduceIte]
  rw [Rd.bind_ok (Rd.take_append _ rest hl), Rd.bind_assoc, Rd.lift_bind, handleSplitter_payload ps.st data actual final c hd ha hsum,
    Nat.mod_eq_of_lt hc, Res.ok_bind]
  cases final with
  | true =>
    rw [if_pos rfl, if_pos rfl, if_pos rfl, Rd.bind_ok (a := (c, ps.st.splitRaw ++ data, _)) rfl, Rd.lift_bind]
    cases handleEvent _ c _ <;> rfl
  | false => rfl

theorem parseEvent_split (ps : ParseState) (data : Bytes) (actual : Nat) (rest : Bytes) (hd : data.length = 512)
    (ha : actual ≤ 512) (hsum : ps.st.splitActual + actual < 2 ^ 32) (hsz : sizeOfEv ps.st.sizes EV_SPLITTER = some 516) :
    parseEvent ps (encEvent (EV_SPLITTER, splitPayload data actual false) ++ rest) =
      .ok ((EV_SPLITTER, { st := { ps.st with splitRaw := ps.st.splitRaw ++ data, splitActual := ps.st.splitActual + actual },
                           bytesRead := ps.bytesRead + 516 + 1 }), rest) :=
  parseEvent_splitter ps data actual false EV_GECKO rest (by decide) hd ha hsum hsz

theorem parseEvent_split_final (ps : ParseState) (data : Bytes) (actual : Nat) (rest : Bytes) (hd : data.length = 512)
    (ha : actual ≤ 512) (hsum : ps.st.splitActual + actual < 2 ^ 32) (hsz : sizeOfEv ps.st.sizes EV_SPLITTER = some 516) :
    parseEvent ps (encEvent (EV_SPLITTER, splitPayload data actual true) ++ rest) =
      .ok ((EV_GECKO, { st := { ps.st with splitRaw := [], splitActual := ps.st.splitActual + actual, gecko := some (Gecko.mk (ps.st.splitRaw ++ data) (ps.st.splitActual + actual)) }, bytesRead := ps.bytesRead + 516 + 1 }), rest) :=
  parseEvent_splitter ps data actual true EV_GECKO rest (by decide) hd ha hsum hsz

#print axioms parseEvent_split_final

def BlockOK (b : Bytes × Nat) : Prop := b.1.length = 512 ∧ b.2 ≤ 512

/-- the *non-final* blocks of a Gecko message, encoded -/
def encBlocks (bs : List (Bytes × Nat)) : Bytes := bs.flatMap fun b => encEvent (EV_SPLITTER, splitPayload b.1 b.2 false)

def sumActual (bs : List (Bytes × Nat)) : Nat := (bs.map (·.2)).sum
def catData (bs : List (Bytes × Nat)) : Bytes := bs.flatMap (·.1)

theorem sumActual_cons (b : Bytes × Nat) (bs : List (Bytes × Nat)) : sumActual (b :: bs) = b.2 + sumActual bs := rfl
theorem catData_cons (b : Bytes × Nat) (t : List (Bytes × Nat)) : catData (b :: t) = b.1 ++ catData t := List.flatMap_cons
theorem encBlocks_cons (b : Bytes × Nat) (t : List (Bytes × Nat)) :
    encBlocks (b :: t) = encEvent (EV_SPLITTER, splitPayload b.1 b.2 false) ++ encBlocks t := List.flatMap_cons

theorem sumActual_snoc (bs : List (Bytes × Nat)) (b : Bytes × Nat) : sumActual (bs ++ [b]) = sumActual bs + b.2 := by
  simp [sumActual]
theorem catData_snoc (bs : List (Bytes × Nat)) (b : Bytes × Nat) : catData (bs ++ [b]) = catData bs ++ b.1 := by
  simp [catData]

theorem sum_map_eq_mul {α} (l : List α) (f : α → Nat) (n : Nat) (h : ∀ a ∈ l, f a = n) : (l.map f).sum = n * l.length := by
  rw [List.map_congr_left h, List.map_const', List.sum_replicate_nat, Nat.mul_comm]

theorem catData_length (bs : List (Bytes × Nat)) (h : ∀ b ∈ bs, b.1.length = 512) : (catData bs).length = 512 * bs.length := by
  rw [catData, List.length_flatMap]
  exact sum_map_eq_mul bs _ 512 h

theorem encBlocks_length (bs : List (Bytes × Nat)) (h : ∀ b ∈ bs, b.1.length = 512) : (encBlocks bs).length = 517 * bs.length := by
  induction bs with
  | nil => rfl
  | cons b t ih =>
    rw [encBlocks_cons, List.length_append, ih (fun b' hb' => h b' (by simp [hb']))]
    simp only [encEvent, List.length_cons, splitPayload_length b.1 b.2 false (h b (by simp))]
    omega

theorem split_run (rawLen : Nat) : ∀ (bs : List (Bytes × Nat)) (fuel : Nat) (ps : ParseState) (rest : Bytes),
    (∀ b ∈ bs, BlockOK b) → ps.st.splitActual + sumActual bs < 2 ^ 32 →
    sizeOfEv ps.st.sizes EV_SPLITTER = some 516 →
    (rawLen = 0 ∨ ps.bytesRead + 517 * bs.length ≤ rawLen) →
    eventLoop (fuel + bs.length) rawLen ps (encBlocks bs ++ rest) =
      eventLoop fuel rawLen { st := { ps.st with splitRaw := ps.st.splitRaw ++ catData bs, splitActual := ps.st.splitActual + sumActual bs },
                              bytesRead := ps.bytesRead + 517 * bs.length } rest := by
  intro bs
  induction bs with
  | nil => intro fuel ps rest _ _ _ _; simp [encBlocks, catData, sumActual]
  | cons b bs ih =>
    intro fuel ps rest hok hsum hsz hraw
    obtain ⟨hd, ha⟩ := hok b List.mem_cons_self
    rw [sumActual_cons, ← Nat.add_assoc] at hsum
    rw [List.length_cons] at hraw
    have hcond : rawLen = 0 ∨ ps.bytesRead < rawLen := by omega
    have hsum1 : ps.st.splitActual + b.2 < 2 ^ 32 := by omega
    have hfirst := parseEvent_split ps b.1 b.2 (encBlocks bs ++ rest) hd ha hsum1 hsz
    have e1 : ps.st.splitActual + b.2 + sumActual bs = ps.st.splitActual + (b.2 + sumActual bs) := Nat.add_assoc _ _ _
    have e2 : ps.bytesRead + 516 + 1 + 517 * bs.length = ps.bytesRead + 517 * (bs.length + 1) := by omega
    have hraw' : rawLen = 0 ∨ ps.bytesRead + 516 + 1 + 517 * bs.length ≤ rawLen := by rw [e2]; exact hraw
    have hih := ih fuel ⟨{ ps.st with splitRaw := ps.st.splitRaw ++ b.1, splitActual := ps.st.splitActual + b.2 }, ps.bytesRead + 516 + 1⟩
      rest (fun b' hb' => hok b' (List.mem_cons_of_mem _ hb')) hsum hsz hraw'
    rw [encBlocks_cons, List.append_assoc, List.length_cons, ← Nat.add_assoc, eventLoop_step hfirst (by decide) hcond, hih]
    simp only [catData_cons, sumActual_cons, List.append_assoc, e1, e2]

/-- **the Gecko block**, nothing in between (`midRun_geckoU` in GeckoU.lean allows unknown events between the blocks): the
    reassembled bytes and the summed actual size end up in `gecko`, the accumulator empty, 517 bytes counted per block -/
theorem gecko_run (rawLen fuel : Nat) (ps : ParseState) (init : List (Bytes × Nat)) (last : Bytes × Nat) (rest : Bytes)
    (hok : ∀ b ∈ init ++ [last], BlockOK b) (hsum : ps.st.splitActual + sumActual (init ++ [last]) < 2 ^ 32)
    (hsz : sizeOfEv ps.st.sizes EV_SPLITTER = some 516)
    (hraw : rawLen = 0 ∨ ps.bytesRead + 517 * (init.length + 1) ≤ rawLen) :
    eventLoop (fuel + 1 + init.length + 1) rawLen ps (encBlocks init ++ (encEvent (EV_SPLITTER, splitPayload last.1 last.2 true) ++ rest)) =
      eventLoop (fuel + 1) rawLen
        { st := { ps.st with splitRaw := [], splitActual := ps.st.splitActual + sumActual (init ++ [last]),
                             gecko := some (Gecko.mk (ps.st.splitRaw ++ catData (init ++ [last])) (ps.st.splitActual + sumActual (init ++ [last]))) },
          bytesRead := ps.bytesRead + 517 * (init.length + 1) } rest := by
  rw [sumActual_snoc, ← Nat.add_assoc] at hsum
  have hcond : rawLen = 0 ∨ ps.bytesRead + 517 * init.length < rawLen := by omega
  have hsumI : ps.st.splitActual + sumActual init < 2 ^ 32 := by omega
  have hinit := split_run rawLen init (fuel + 1 + 1) ps (encEvent (EV_SPLITTER, splitPayload last.1 last.2 true) ++ rest)
    (fun b hb => hok b (List.mem_append_left _ hb)) hsumI hsz (hcond.imp_right Nat.le_of_lt)
  obtain ⟨hd, ha⟩ := hok last (by simp)
  have hfin := parseEvent_split_final
    ⟨{ ps.st with splitRaw := ps.st.splitRaw ++ catData init, splitActual := ps.st.splitActual + sumActual init },
      ps.bytesRead + 517 * init.length⟩ last.1 last.2 rest hd ha hsum hsz
  have e1 : ps.st.splitActual + sumActual init + last.2 = ps.st.splitActual + (sumActual init + last.2) := Nat.add_assoc _ _ _
  have e2 : ps.bytesRead + 517 * init.length + 516 + 1 = ps.bytesRead + 517 * (init.length + 1) := by omega
  rw [Nat.add_right_comm _ init.length 1, hinit, eventLoop_step hfin (by decide) hcond]
  simp only [sumActual_snoc, catData_snoc, List.append_assoc, e1, e2]

#print axioms gecko_run
end Peppi
