import Peppi.Lemmas.Wp
import Peppi.Lemmas.C08
/-! C08, second half (longer payloads from newer versions), at handler level: a frame event whose payload carries extra
    trailing bytes is handled exactly like the event without them. -/
namespace Peppi
open Extracted

theorem not_short_append {r : Bytes} {n : Nat} (x : Bytes) (h : ¬ r.length < n) : ¬ (r ++ x).length < n := by
  rw [List.length_append]
  omega

theorem i32At_extra (buf x : Bytes) (id : Int) (r : Bytes) (h : i32At buf = .ok (id, r)) : i32At (buf ++ x) = .ok (id, r ++ x) := by
  unfold i32At at h ⊢
  by_cases hl : buf.length < 4
  · simp [hl] at h
  · simp only [hl, ↓reduceIte, Res.ok.injEq, Prod.mk.injEq] at h
    have hl' := not_short_append x hl
    simp only [hl', ↓reduceIte, Res.ok.injEq, Prod.mk.injEq]
    obtain ⟨h1, h2⟩ := h
    constructor
    · rw [List.take_append_of_le_length (Nat.le_of_not_lt hl), h1]
    · rw [List.drop_append_of_le_length (Nat.le_of_not_lt hl), h2]

theorem getD_extra (r x : Bytes) (hr : ¬ r.length < 2) :
    (r ++ x).getD 0 0 = r.getD 0 0 ∧ (r ++ x).getD 1 0 = r.getD 1 0 ∧ (r ++ x).drop 2 = r.drop 2 ++ x := by
  match r, hr with
  | [], h => simp at h
  | [_], h => simp at h
  | a :: b :: t, _ => simp

/-- the frame id in front of the payload -/
theorem i32At_bind_extra {α} {f g : Int × Bytes → Res α} {buf : Bytes} {a : α} (x : Bytes)
    (hfg : ∀ id r, f (id, r) = .ok a → g (id, r ++ x) = .ok a) (h : (i32At buf >>= f) = .ok a) : (i32At (buf ++ x) >>= g) = .ok a := by
  cases hi : i32At buf with
  | ok p => rw [hi] at h; rw [i32At_extra buf x p.1 p.2 hi]; exact hfg p.1 p.2 h
  | err e => rw [hi] at h; cases h
  | panic e => rw [hi] at h; cases h

/-- the row at the end of the payload -/
theorem rowOrEof_bind_extra {α} {v : Ver} {L : List Fld} {b : Bytes} {f : Row → Res α} {a : α} (x : Bytes)
    (h : (rowOrEof v L b >>= f) = .ok a) : (rowOrEof v L (b ++ x) >>= f) = .ok a := by
  cases hr : rowOrEof v L b with
  | ok row => rw [hr] at h; rw [rowOrEof_extra v L b x row hr]; exact h
  | err e => rw [hr] at h; cases h
  | panic e => rw [hr] at h; cases h

/-- **C08 (longer payloads), event level**: extra trailing bytes on a frame event do not change what the handler does -/
theorem handleEvent_extra (st st' : PState) (code : Nat) (buf x : Bytes) (hc : isFrameEv code = true)
    (h : handleEvent st code buf = .ok st') : handleEvent st code (buf ++ x) = .ok st' := by
  simp only [isFrameEv, Bool.or_eq_true, beq_iff_eq] at hc
  rcases hc with (((hc | hc) | hc) | hc) | hc <;> subst hc
  · rw [handleEvent_frameStart] at h ⊢
    refine i32At_bind_extra x (fun id r h => ?_) h
    dsimp only at h ⊢
    split at h
    · cases h
    · exact rowOrEof_bind_extra x h
  · rw [handleEvent_pre] at h ⊢
    refine i32At_bind_extra x (fun id r h => ?_) h
    dsimp only at h ⊢
    by_cases hl : r.length < 2
    · rw [if_pos hl] at h; cases h
    · obtain ⟨g0, g1, g2⟩ := getD_extra r x hl
      rw [if_neg hl] at h
      rw [if_neg (not_short_append x hl), g0, g1, g2]
      exact Res.bind_ok_imp (fun _ => Res.bind_ok_imp fun _ => Res.bind_ok_imp fun _ => rowOrEof_bind_extra x) h
  · rw [handleEvent_post] at h ⊢
    refine i32At_bind_extra x (fun id r h => ?_) h
    dsimp only at h ⊢
    by_cases hl : r.length < 2
    · rw [if_pos hl] at h; cases h
    · obtain ⟨g0, g1, g2⟩ := getD_extra r x hl
      rw [if_neg hl] at h
      rw [if_neg (not_short_append x hl), g0, g1, g2]
      exact Res.bind_ok_imp (fun _ => Res.bind_ok_imp fun _ => rowOrEof_bind_extra x) h
  · rw [handleEvent_frameEnd] at h ⊢
    refine i32At_bind_extra x (fun id r h => ?_) h
    dsimp only at h ⊢
    cases hf : st.frames.fend with
    | none => rw [hf] at h; cases h
    | some ec =>
      rw [hf] at h
      refine Res.bind_ok_imp (fun _ h => ?_) h
      -- without item offsets or item rows the handler panics
      cases ho : st.frames.itemOff with
      | none => rw [ho] at h; cases h
      | some offs =>
        cases hi : st.frames.item with
        | none => rw [ho, hi] at h; cases h
        | some items =>
          simp only [ho, hi] at h ⊢
          split at h
          · cases h
          · rw [if_neg ‹_›]
            exact rowOrEof_bind_extra x h
  · rw [handleEvent_item] at h ⊢
    refine i32At_bind_extra x (fun id r h => ?_) h
    dsimp only at h ⊢
    split at h
    · cases h
    · exact Res.bind_ok_imp (fun _ => rowOrEof_bind_extra x) h

/-- `es'` is `es` with extra trailing bytes on some frame events -/
inductive Longer : List (Nat × Bytes) → List (Nat × Bytes) → Prop
  | nil : Longer [] []
  | ext (c : Nat) (b x : Bytes) (es' es : List (Nat × Bytes)) : isFrameEv c = true → Longer es' es → Longer ((c, b ++ x) :: es') ((c, b) :: es)
  | same (e : Nat × Bytes) (es' es : List (Nat × Bytes)) : Longer es' es → Longer (e :: es') (e :: es)

theorem Longer.refl : ∀ es, Longer es es
  | [] => .nil
  | e :: es => .same e es es (Longer.refl es)

/-- **C08 (longer payloads), stream level** -/
theorem runEvents_longer {es' es : List (Nat × Bytes)} (hl : Longer es' es) : ∀ (st st' : PState),
    runEvents st es = .ok st' → runEvents st es' = .ok st' := by
  induction hl with
  | nil => exact fun _ _ h => h
  | ext c b x es' es hc _ ih =>
    intro st st' h
    obtain ⟨s1, hh, h⟩ := runEvents_cons_inv h
    rw [runEvents, handleEvent_extra st s1 c b x hc hh]
    exact ih s1 st' h
  | same e es' es _ ih =>
    intro st st' h
    obtain ⟨s1, hh, h⟩ := runEvents_cons_inv h
    rw [runEvents, hh]
    exact ih s1 st' h

#print axioms handleEvent_extra
#print axioms runEvents_longer
theorem Longer.codes {es' es : List (Nat × Bytes)} (h : Longer es' es) : es'.map Prod.fst = es.map Prod.fst := by
  induction h with
  | nil => rfl
  | ext c b x es' es _ _ ih => simp [ih]
  | same e es' es _ ih => simp [ih]

end Peppi
