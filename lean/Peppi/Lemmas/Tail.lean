import Peppi.Lemmas.Prefix
import Peppi.UbjsonProof
/-! What `read` does after the event loop (`readTail`): close the dangling frame below 3.0, take the bytes left in the raw
    element (a duplicated Game End is the case that looks like one), read the metadata element and the closing brace.
    `readTail_spec` says it once; `readTail_exact` … `readTail_junk` are its cases. -/
namespace Peppi

def metaBytes (md : Option KVs) : Bytes :=
  (match md with | some m => [0x55] ++ METADATA_KEY ++ encKVs m ++ [0x7d] | none => []) ++ [0x7d]

def gameOf (st : PState) (md : Option KVs) (dbl : Option Bool) : Game :=
  { start := st.start, fend := st.fend, frames := st.frames, metadata := md, gecko := st.gecko, hashedLen := none, doubleGameEnd := dbl }

/-- what `read` does right after the loop: close the dangling frame below 3.0 -/
def PState.closed (st : PState) : PState :=
  if st.start.version.lt 3 0 then { st with frames := st.frames.close } else st

theorem PState.closed_eq (st : PState) :
    st.closed = { st with frames := if st.start.version.lt 3 0 then st.frames.close else st.frames } := by
  unfold PState.closed
  split <;> rfl

/-- bytes that `read` would mistake for a duplicated Game End -/
def looksLikeEnd (v : Ver) (junk : Bytes) : Prop := junk.length = 1 + endSize v ∧ junk.head? = some 0x39

/-- the duplicated-Game-End test applied to the bytes between the end of the loop and the declared raw length -/
def dgeOf (v : Ver) (x : Bytes) (old : Option Bool) : Option Bool :=
  if x.length = 1 + endSize v ∧ x.head? = some 0x39 then some true else old

theorem dgeOf_nil (v : Ver) (old : Option Bool) : dgeOf v [] old = old := by
  have : ¬ (0 = 1 + endSize v) := by omega
  simp [dgeOf, this]

theorem dgeOf_end (v : Ver) (e : Bytes) (old : Option Bool) (he : e.length = endSize v) :
    dgeOf v (encEvent (EV_GAME_END, e)) old = some true := by
  have h1 : (encEvent (EV_GAME_END, e)).length = 1 + endSize v := by simp [encEvent, he]; omega
  have h2 : (encEvent (EV_GAME_END, e)).head? = some 0x39 := by simp [encEvent]; decide
  simp [dgeOf, h1, h2]

theorem dgeOf_junk (v : Ver) (x : Bytes) (old : Option Bool) (h : ¬ looksLikeEnd v x) : dgeOf v x old = old :=
  if_neg h

/-- the two halves of `readTail`, in its own words (`PState.closed` written out) -/
def tailExtra (rawLen : Nat) (ps : ParseState) : Rd PState := do
  let st := if ps.st.start.version.lt 3 0 then { ps.st with frames := ps.st.frames.close } else ps.st
  if ps.bytesRead < rawLen then do
      let len := rawLen - ps.bytesRead
      let buf ← Rd.take len
      if len = 1 + endSize st.start.version ∧ buf.head? = some 0x39 then pure { st with doubleGameEnd := some true } else pure st
    else pure st

def tailMeta (T : TextOracle) (st : PState) : Rd Game := do
  let b ← Rd.u8
  let st ← (if b = 0x55 then do
      let st ← parseMetadata T.utf8Ok st
      expectBytes [0x7d]
      pure st
    else if b = 0x7d then pure st
    else Rd.fail "expected: 0x55 or 0x7d")
  pure { start := st.start, fend := st.fend, frames := st.frames, metadata := st.metadata, gecko := st.gecko,
         hashedLen := none, doubleGameEnd := st.doubleGameEnd }

theorem readTail_split (T : TextOracle) (rawLen : Nat) (ps : ParseState) :
    readTail T rawLen ps = (tailExtra rawLen ps >>= tailMeta T) := rfl

theorem tailMeta_enc (T : TextOracle) (st : PState) (md : Option KVs) (hmd : st.metadata = none)
    (hwf : ∀ m, md = some m → KVs.WF T.utf8Ok 1 m) :
    tailMeta T st (metaBytes md) = .ok (gameOf st md st.doubleGameEnd, []) := by
  unfold tailMeta
  cases md with
  | none =>
    simp only [metaBytes, List.nil_append, bind, Rd.u8, UInt8.reduceToNat, Nat.reduceEqDiff, ↓reduceIte, pure, gameOf, hmd]
  | some m =>
    -- the marker 0x55 and the key `metadata`; the map; the closing brace of the file
    simp only [metaBytes, List.cons_append, List.nil_append, List.append_assoc, bind, Rd.u8, UInt8.reduceToNat, ↓reduceIte,
      parseMetadata, expectBytes_ok METADATA_KEY]
    simp only [readMap_enc T.utf8Ok m [0x7d] (hwf m rfl), pure]
    simp only [show expectBytes [0x7d] [0x7d] = .ok ((), []) from expectBytes_ok [0x7d] [], gameOf]

/-- the bytes the loop has left in the raw element are taken in one piece; only their length and first byte matter -/
theorem tailExtra_spec (rawLen : Nat) (ps : ParseState) (x rest : Bytes) (hbr : rawLen - ps.bytesRead = x.length) :
    tailExtra rawLen ps (x ++ rest) =
      .ok ({ ps.st.closed with doubleGameEnd := dgeOf ps.st.start.version x ps.st.doubleGameEnd }, rest) := by
  have hstart : ps.st.closed.start = ps.st.start := by rw [PState.closed_eq]
  have hdge : ps.st.closed.doubleGameEnd = ps.st.doubleGameEnd := by rw [PState.closed_eq]
  unfold tailExtra
  rw [show (if ps.st.start.version.lt 3 0 then { ps.st with frames := ps.st.frames.close } else ps.st) = ps.st.closed from rfl,
    ← hstart, ← hdge]
  generalize ps.st.closed = q
  by_cases hx : x.length = 0
  · obtain rfl : x = [] := List.length_eq_zero_iff.mp hx
    have hnlt : ¬ ps.bytesRead < rawLen := by simp at hbr; omega
    simp only [hnlt, ↓reduceIte, List.nil_append, dgeOf_nil]
    rfl
  · have hlt : ps.bytesRead < rawLen := by omega
    simp only [hlt, ↓reduceIte, hbr, bind, Rd.take_append x rest rfl, dgeOf]
    split <;> rfl

/-- **`readTail`**: `x` are the bytes of the raw element the loop has left (none when it ran past the declared length) -/
theorem readTail_spec (T : TextOracle) (rawLen : Nat) (ps : ParseState) (md : Option KVs) (x : Bytes)
    (hbr : rawLen - ps.bytesRead = x.length) (hmd : ps.st.metadata = none)
    (hwf : ∀ m, md = some m → KVs.WF T.utf8Ok 1 m) :
    readTail T rawLen ps (x ++ metaBytes md) =
      .ok (gameOf ps.st.closed md (dgeOf ps.st.start.version x ps.st.doubleGameEnd), []) := by
  have hmd' : ps.st.closed.metadata = none := by rw [PState.closed_eq]; exact hmd
  rw [readTail_split]
  simp only [bind, tailExtra_spec rawLen ps x _ hbr]
  exact tailMeta_enc T _ md hmd' hwf

/-- `readTail_spec` with the count given as a sum, for a caller that has counted the file's bytes (`readTail_spec` also covers a
    loop that ran past the declared length) -/
theorem readTail_gen (T : TextOracle) (rawLen : Nat) (ps : ParseState) (md : Option KVs) (x : Bytes)
    (hbr : ps.bytesRead + x.length = rawLen) (hmd : ps.st.metadata = none)
    (hwf : ∀ m, md = some m → KVs.WF T.utf8Ok 1 m) :
    readTail T rawLen ps (x ++ metaBytes md) =
      .ok (gameOf ps.st.closed md (dgeOf ps.st.start.version x ps.st.doubleGameEnd), []) :=
  readTail_spec T rawLen ps md x (by omega) hmd hwf

theorem readTail_exact (T : TextOracle) (rawLen : Nat) (ps : ParseState) (md : Option KVs)
    (hv : ps.st.start.version.lt 3 0 = false) (hbr : ¬ ps.bytesRead < rawLen) (hmd : ps.st.metadata = none)
    (hwf : ∀ m, md = some m → KVs.WF T.utf8Ok 1 m) :
    readTail T rawLen ps (metaBytes md) = .ok (gameOf ps.st md ps.st.doubleGameEnd, []) := by
  simpa [PState.closed_eq, hv, dgeOf_nil] using readTail_spec T rawLen ps md [] (by simp; omega) hmd hwf

theorem readTail_exactB (T : TextOracle) (rawLen : Nat) (ps : ParseState) (md : Option KVs)
    (hv : ps.st.start.version.lt 3 0 = true) (hbr : ¬ ps.bytesRead < rawLen) (hmd : ps.st.metadata = none)
    (hwf : ∀ m, md = some m → KVs.WF T.utf8Ok 1 m) :
    readTail T rawLen ps (metaBytes md) = .ok (gameOf { ps.st with frames := ps.st.frames.close } md ps.st.doubleGameEnd, []) := by
  simpa [PState.closed_eq, hv, dgeOf_nil] using readTail_spec T rawLen ps md [] (by simp; omega) hmd hwf

theorem readTail_doubledB (T : TextOracle) (rawLen : Nat) (ps : ParseState) (md : Option KVs) (e : Bytes)
    (hv : ps.st.start.version.lt 3 0 = true) (hbr : ps.bytesRead + (1 + e.length) = rawLen)
    (he : e.length = endSize ps.st.start.version) (hmd : ps.st.metadata = none)
    (hwf : ∀ m, md = some m → KVs.WF T.utf8Ok 1 m) :
    readTail T rawLen ps (encEvent (EV_GAME_END, e) ++ metaBytes md) =
      .ok (gameOf { ps.st with frames := ps.st.frames.close } md (some true), []) := by
  have hl : (encEvent (EV_GAME_END, e)).length = 1 + e.length := by simp [encEvent]; omega
  simpa [PState.closed_eq, hv, dgeOf_end _ e _ he] using
    readTail_spec T rawLen ps md (encEvent (EV_GAME_END, e)) (by omega) hmd hwf

theorem readTail_junk (T : TextOracle) (rawLen : Nat) (ps : ParseState) (md : Option KVs) (junk : Bytes)
    (hv : ps.st.start.version.lt 3 0 = false) (hbr : ps.bytesRead + junk.length = rawLen) (hj : 0 < junk.length)
    (hnot : ¬ looksLikeEnd ps.st.start.version junk) (hmd : ps.st.metadata = none)
    (hwf : ∀ m, md = some m → KVs.WF T.utf8Ok 1 m) :
    readTail T rawLen ps (junk ++ metaBytes md) = .ok (gameOf ps.st md ps.st.doubleGameEnd, []) := by
  simpa [PState.closed_eq, hv, dgeOf_junk _ _ _ hnot] using readTail_spec T rawLen ps md junk (by omega) hmd hwf

end Peppi
