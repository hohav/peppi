import Peppi.Lemmas.Unified
/-! Every version: the write-and-re-read clause of C10 (`C10_rewrite_any`), over the frame-less history `Replay.skipped`. -/
namespace Peppi
open Extracted

/-- the history a skip-frames read denotes: same start, end and metadata; no frames, no Gecko block, a single Game End -/
def Replay.skipped (r : Replay) : Replay := { r with frames := [], doubled := false }

theorem Replay.WFAny.skipped {T : TextOracle} {r : Replay} {s : Start} {gk : Option GeckoBlocks} (h : r.WFAny T s gk)
    (e : Bytes) (hfe : r.fend = some e) : r.skipped.WFAny T s none where
  start := h.start
  startLen := h.startLen
  frames := nofun
  seq := fun _ pre o post hfr => by simp [Replay.skipped] at hfr
  endOK := h.endOK
  endLenOK := h.endLenOK
  doubledOK := nofun
  metadata := h.metadata
  gecko := nofun
  rawLen := by
    -- table, start block and one Game End, each below 2^16
    have hend : (encEvents r.skipped.endEvents).length = 1 + e.length := by
      simp [Replay.skipped, Replay.endEvents, hfe, encEvents, encEvent, Nat.add_comm]
    have ht := canonTableAny_length s.version r.startBlock.length (r.skipped.endLen s.version) none
    have hs := h.startLen.2
    have he := (h.endOK e hfe).2.1
    have hnone : canonEventsAny s.version (portOccupancy s) r.skipped.frames = [] := by simp [Replay.skipped, canonEventsAny]
    rw [r.skipped.rawAny_length _ _ none nofun, hend, hnone]
    simp only [Replay.skipped, Option.map_none, Option.getD_none, List.length_nil, encEvents_nil] at ht ⊢
    omega

/-- **C10, write-and-re-read clause, every version ≤ the maximum**: the game a skip-frames read returns for a finished
    well-formed replay can be written out — the result is the canonical file of the frame-less history — and reading
    that file (fully or with skip-frames) returns the same game again. -/
theorem C10_rewrite_any (T : TextOracle) (r : Replay) (s : Start) (gk : Option GeckoBlocks) (h : r.WFAny T s gk)
    (hmax : assertMaxVersion s.version = .ok ()) (e : Bytes) (hfe : r.fend = some e) (hash : Bool) :
    ∃ gSkip, readSlp T { skipFrames := true, computeHash := hash } (r.encodeAny s.version (portOccupancy s) gk) = .ok gSkip ∧
      writeSlp gSkip = writeSlp { gSkip with hashedLen := none } ∧
      writeSlp { gSkip with hashedLen := none } = .ok (r.skipped.encodeAny s.version (portOccupancy s) none) ∧
      readSlp T {} (r.skipped.encodeAny s.version (portOccupancy s) none) = .ok { gSkip with hashedLen := none } ∧
      readSlp T { skipFrames := true } (r.skipped.encodeAny s.version (portOccupancy s) none) = .ok { gSkip with hashedLen := none } := by
  obtain ⟨ge, hge⟩ := (h.endOK e hfe).2.2
  have hw := h.skipped e hfe
  have hfe' : r.skipped.fend = some e := hfe
  have hgame : r.skipped.gameAny s (some ge) none = r.gameSkip s ge := by
    simp [Replay.skipped, Replay.gameAny, Replay.game, Replay.gameSkip, FCols_new_eq]
  have hwrite := write_game_any T r.skipped s none hw hmax (some ge) (parsedEnd_some hfe' hge)
  have hfull := readSlp_full_any hw (parsedEnd_some hfe' hge) false
  rw [hgame] at hwrite hfull
  exact ⟨_, readSlp_skip_any h hfe hge hash, rfl, hwrite, hfull, readSlp_skip_any hw hfe' hge false⟩

#print axioms C10_rewrite_any
end Peppi
