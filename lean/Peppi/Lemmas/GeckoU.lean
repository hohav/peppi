import Peppi.Lemmas.Tables
/-! Unknown events *between* the message-splitter events of the Gecko block (C08: "wherever they occur"): each splitter event
    and each run of unknown events is one `MidRun` step; the steps compose. -/
namespace Peppi
open Extracted

theorem MidRun.block (ps : ParseState) (data : Bytes) (actual : Nat) (hd : data.length = 512) (ha : actual ≤ 512)
    (hsum : ps.st.splitActual + actual < 2 ^ 32) (hsz : sizeOfEv ps.st.sizes EV_SPLITTER = some 516) :
    MidRun ps (encEvent (EV_SPLITTER, splitPayload data actual false))
      { st := { ps.st with splitRaw := ps.st.splitRaw ++ data, splitActual := ps.st.splitActual + actual }, bytesRead := ps.bytesRead + 517 } :=
  MidRun.one ps _ _ EV_SPLITTER (hne := by decide) (hpos := Nat.succ_pos _)
    (hparse := fun rest => parseEvent_split ps data actual rest hd ha hsum hsz)

theorem MidRun.blockFinal (ps : ParseState) (data : Bytes) (actual : Nat) (hd : data.length = 512) (ha : actual ≤ 512)
    (hsum : ps.st.splitActual + actual < 2 ^ 32) (hsz : sizeOfEv ps.st.sizes EV_SPLITTER = some 516) :
    MidRun ps (encEvent (EV_SPLITTER, splitPayload data actual true))
      { st := { ps.st with splitRaw := [], splitActual := ps.st.splitActual + actual,
                           gecko := some (Gecko.mk (ps.st.splitRaw ++ data) (ps.st.splitActual + actual)) },
        bytesRead := ps.bytesRead + 517 } :=
  MidRun.one ps _ _ EV_GECKO (hne := by decide) (hpos := Nat.succ_pos _)
    (hparse := fun rest => parseEvent_split_final ps data actual rest hd ha hsum hsz)

theorem MidRun.unknowns (ps : ParseState) (es : List (Nat × Bytes))
    (h : ∀ e ∈ es, isKnown e.1 = false ∧ e.1 < 256 ∧ sizeOfEv ps.st.sizes e.1 = some e.2.length) :
    MidRun ps (encEvents es) { st := ps.st, bytesRead := ps.bytesRead + (encEvents es).length } := by
  apply MidRun.events ps es ps.st
  · intro e he
    obtain ⟨hk, hc, hs⟩ := h e he
    obtain ⟨hns, hne⟩ := isKnown_false_ne hk
    exact ⟨hc, hns, hne, hs⟩
  · rw [runEvents_erase_unknown, List.filter_eq_nil_iff.mpr fun e he => by simp [(h e he).1]]
    rfl

/-- non-final blocks, each preceded by a (possibly empty) run of unknown events taken from `us` in order -/
def encBlocksU : List (Bytes × Nat) → List (List (Nat × Bytes)) → Bytes
  | [], _ => []
  | b :: bs, us => encEvents (us.headD []) ++ (encEvent (EV_SPLITTER, splitPayload b.1 b.2 false) ++ encBlocksU bs us.tail)

/-- the Gecko block with unknown events before each of its splitter events -/
def GeckoBlocks.encU (g : GeckoBlocks) (us : List (List (Nat × Bytes))) : Bytes :=
  encBlocksU g.init us ++ (encEvents ((us.drop g.init.length).headD []) ++ encEvent (EV_SPLITTER, splitPayload g.last.1 g.last.2 true))

theorem encBlocksU_nil (bs : List (Bytes × Nat)) : encBlocksU bs [] = encBlocks bs := by
  induction bs with
  | nil => rfl
  | cons b bs ih => simp only [encBlocksU, List.headD_nil, List.tail_nil, ih]; simp [encBlocks, List.flatMap_cons, encEvents]

theorem GeckoBlocks.encU_nil (g : GeckoBlocks) : g.encU [] = g.enc := by
  simp [GeckoBlocks.encU, GeckoBlocks.enc, encBlocksU_nil, encEvents]

theorem encSplit_length (b : Bytes × Nat) (final : Bool) (hd : b.1.length = 512) :
    (encEvent (EV_SPLITTER, splitPayload b.1 b.2 final)).length = 517 :=
  congrArg Nat.succ (splitPayload_length b.1 b.2 final hd)

theorem midRun_blocksU : ∀ (bs : List (Bytes × Nat)) (us : List (List (Nat × Bytes))) (ps : ParseState),
    (∀ b ∈ bs, BlockOK b) → ps.st.splitActual + sumActual bs < 2 ^ 32 → sizeOfEv ps.st.sizes EV_SPLITTER = some 516 →
    (∀ u ∈ us, ∀ e ∈ u, isKnown e.1 = false ∧ e.1 < 256 ∧ sizeOfEv ps.st.sizes e.1 = some e.2.length) →
    MidRun ps (encBlocksU bs us)
      { st := { ps.st with splitRaw := ps.st.splitRaw ++ catData bs, splitActual := ps.st.splitActual + sumActual bs },
        bytesRead := ps.bytesRead + (encBlocksU bs us).length } := by
  intro bs
  induction bs with
  | nil =>
    intro us ps _ _ _ _
    rw [show catData [] = [] from rfl, List.append_nil]
    exact MidRun.nil ps
  | cons b bs ih =>
    intro us ps hok hsum hsz hus
    obtain ⟨hd, ha⟩ := hok b (by simp)
    rw [sumActual_cons, ← Nat.add_assoc] at hsum
    have hsum1 : ps.st.splitActual + b.2 < 2 ^ 32 := by omega
    have hl := encSplit_length b false hd
    -- the unknown events in front, the block, the remaining blocks
    have m1 := MidRun.unknowns ps (us.headD []) fun e he => by
      cases us with
      | nil => cases he
      | cons u t => exact hus u (by simp) e he
    have m2 := MidRun.block ⟨ps.st, ps.bytesRead + (encEvents (us.headD [])).length⟩ b.1 b.2 hd ha hsum1 hsz
    have m3 := ih us.tail ⟨{ ps.st with splitRaw := ps.st.splitRaw ++ b.1, splitActual := ps.st.splitActual + b.2 },
        ps.bytesRead + (encEvents (us.headD [])).length + 517⟩
      (fun b' hb' => hok b' (List.mem_cons_of_mem _ hb')) hsum hsz
      (fun u hu e he => hus u (List.mem_of_mem_tail hu) e he)
    rw [← hl] at m2 m3
    rw [encBlocksU, sumActual_cons, ← Nat.add_assoc, catData_cons, ← List.append_assoc ps.st.splitRaw]
    exact m1.append (m2.append m3)

/-- from any state: the last block hands what has accumulated to the Gecko codes -/
theorem midRun_gecko (ps : ParseState) (g : GeckoBlocks) (us : List (List (Nat × Bytes)))
    (hfull : ∀ b ∈ g.init, FullBlock b) (hlast : LastBlock g.last) (htot : ps.st.splitActual + g.total < 2 ^ 32)
    (hsz : sizeOfEv ps.st.sizes EV_SPLITTER = some 516)
    (hus : ∀ u ∈ us, ∀ e ∈ u, isKnown e.1 = false ∧ e.1 < 256 ∧ sizeOfEv ps.st.sizes e.1 = some e.2.length) :
    MidRun ps (g.encU us)
      { st := { ps.st with splitRaw := [], splitActual := ps.st.splitActual + g.total,
                           gecko := some (Gecko.mk (ps.st.splitRaw ++ catData g.all) (ps.st.splitActual + g.total)) },
        bytesRead := ps.bytesRead + (g.encU us).length } := by
  have hblocks : ∀ b ∈ g.init, BlockOK b := fun b hb => ⟨(hfull b hb).1, by rw [(hfull b hb).2]; omega⟩
  have hsl : g.total = sumActual g.init + g.last.2 := sumActual_snoc g.init g.last
  have hcat : catData g.all = catData g.init ++ g.last.1 := catData_snoc g.init g.last
  rw [hsl, ← Nat.add_assoc] at htot
  have hsumI : ps.st.splitActual + sumActual g.init < 2 ^ 32 := by omega
  have hl := encSplit_length g.last true hlast.1
  -- the non-final blocks, the unknown events before the last block, the last block
  have m1 := midRun_blocksU g.init us ps hblocks hsumI hsz hus
  let psA : ParseState :=
    { st := { ps.st with splitRaw := ps.st.splitRaw ++ catData g.init, splitActual := ps.st.splitActual + sumActual g.init },
      bytesRead := ps.bytesRead + (encBlocksU g.init us).length }
  have m2 := MidRun.unknowns psA ((us.drop g.init.length).headD []) fun e he => by
    cases hd : us.drop g.init.length with
    | nil => rw [hd] at he; cases he
    | cons u r => rw [hd] at he; exact hus u (List.mem_of_mem_drop (by rw [hd]; simp)) e he
  have m3 := MidRun.blockFinal ⟨psA.st, psA.bytesRead + (encEvents ((us.drop g.init.length).headD [])).length⟩ g.last.1 g.last.2
    hlast.1 hlast.2.2 htot hsz
  rw [← hl] at m3
  rw [GeckoBlocks.encU, hsl, hcat, ← Nat.add_assoc, ← List.append_assoc ps.st.splitRaw]
  exact m1.append (m2.append m3)

/-- **the Gecko block with unknown events in between**, right after `parse_start` -/
theorem midRun_geckoU (t : List (Nat × Nat)) (sl : Nat) (s : Start) (g : GeckoBlocks) (us : List (List (Nat × Bytes)))
    (hfull : ∀ b ∈ g.init, FullBlock b) (hlast : LastBlock g.last) (htot : g.total < 2 ^ 32)
    (hsz : sizeOfEv t.reverse EV_SPLITTER = some 516)
    (hus : ∀ u ∈ us, ∀ e ∈ u, isKnown e.1 = false ∧ e.1 < 256 ∧ sizeOfEv t.reverse e.1 = some e.2.length) :
    MidRun (ps0T t sl s) (g.encU us)
      { st := { (ps0T t sl s).st with splitRaw := [], splitActual := g.total, gecko := some (Gecko.mk (catData g.all) g.total) },
        bytesRead := (ps0T t sl s).bytesRead + (g.encU us).length } := by
  have h0 : (ps0T t sl s).st.splitActual = 0 := rfl
  have htot0 : (ps0T t sl s).st.splitActual + g.total < 2 ^ 32 := by rw [h0, Nat.zero_add]; exact htot
  have h := midRun_gecko (ps0T t sl s) g us hfull hlast htot0 hsz hus
  rwa [h0, Nat.zero_add] at h

#print axioms midRun_geckoU
end Peppi
