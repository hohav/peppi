import Peppi.Lemmas.WriteAny
import Peppi.Lemmas.Skip
import Peppi.Lemmas.Canon
/-! One statement per property over **every** version, from `C04_any` (read), `C10_any` (skipping read) and `write_game_any`
    (write); the statements for the four framing regimes are their instances.  `Replay.WFAny` is what the properties call a
    *well-formed replay*. -/
namespace Peppi
open Extracted

section
variable {T : TextOracle} {r : Replay} {s : Start} {gk : Option GeckoBlocks} (h : r.WFAny T s gk)
include h

theorem readSlp_full_any {ge : Option End} (hge : r.fend.map gameEnd = ge.map Res.ok) (hash : Bool) :
    readSlp T { skipFrames := false, computeHash := hash } (r.encodeAny s.version (portOccupancy s) gk) =
      .ok { r.gameAny s ge gk with
            hashedLen := if hash then some (r.encodeAny s.version (portOccupancy s) gk).length else none } :=
  readSlp_of_readP (readP_canon h hge) hash

theorem readSlp_plain_any {ge : Option End} (hge : r.fend.map gameEnd = ge.map Res.ok) :
    readSlp T {} (r.encodeAny s.version (portOccupancy s) gk) = .ok (r.gameAny s ge gk) :=
  (readSlp_full_any h hge false).trans (by rw [Replay.gameAny_eq]; rfl)

theorem readSlp_skip_any {e : Bytes} (hfe : r.fend = some e) {ge : End} (hge : gameEnd e = .ok ge) (hash : Bool) :
    readSlp T { skipFrames := true, computeHash := hash } (r.encodeAny s.version (portOccupancy s) gk) =
      .ok { r.gameSkip s ge with
            hashedLen := if hash then some (r.encodeAny s.version (portOccupancy s) gk).length else none } := by
  obtain ⟨ge', hge', hskip⟩ := C10_any T r s gk h e hfe hash
  cases hge.symm.trans hge'
  exact readSlp_of_readP hskip hash

end

/-- **C01, every version ≤ the maximum**: reading the canonical file of a well-formed replay and writing the game back
    reproduces the file byte for byte. -/
theorem C01_any (T : TextOracle) (r : Replay) (s : Start) (gk : Option GeckoBlocks) (h : r.WFAny T s gk)
    (hmax : assertMaxVersion s.version = .ok ()) :
    ∃ g, readSlp T {} (r.encodeAny s.version (portOccupancy s) gk) = .ok g ∧
      writeSlp g = .ok (r.encodeAny s.version (portOccupancy s) gk) := by
  obtain ⟨ge, hge⟩ := h.parsedEnd
  exact ⟨_, readSlp_plain_any h hge, write_game_any T r s gk h hmax ge hge⟩

/-- **C01 (≥ 3.0, no Gecko block)** -/
theorem C01_A (T : TextOracle) (r : Replay) (s : Start) (h : r.WF T s) (hmax : assertMaxVersion s.version = .ok ()) :
    ∃ g, readSlp T {} (r.encode s.version (portOccupancy s)) = .ok g ∧ writeSlp g = .ok (r.encode s.version (portOccupancy s)) :=
  h.encodeAny_eq _ ▸ C01_any T r s none h.toAny hmax

/-- **C01, 2.2 ≤ v < 3.0 (no Gecko block exists below 3.3)** -/
theorem C01_B (T : TextOracle) (r : Replay) (s : Start) (h : r.WFB T s) (hmax : assertMaxVersion s.version = .ok ()) :
    ∃ g, readSlp T {} (r.encodeB s.version (portOccupancy s)) = .ok g ∧ writeSlp g = .ok (r.encodeB s.version (portOccupancy s)) :=
  h.encodeAny_eq _ ▸ C01_any T r s none h.toAny hmax

/-- **C01, v < 2.2** -/
theorem C01_C (T : TextOracle) (r : Replay) (s : Start) (h : r.WFC T s) (hmax : assertMaxVersion s.version = .ok ()) :
    ∃ g, readSlp T {} (r.encodeC s.version (portOccupancy s)) = .ok g ∧ writeSlp g = .ok (r.encodeC s.version (portOccupancy s)) :=
  h.encodeAny_eq _ ▸ C01_any T r s none h.toAny hmax

/-- **C01, ≥ 3.3 with a Gecko block** -/
theorem C01_G (T : TextOracle) (r : Replay) (s : Start) (gk : GeckoBlocks) (h : r.WFG T s gk) (hmax : assertMaxVersion s.version = .ok ()) :
    ∃ g, readSlp T {} (r.encodeG s.version (portOccupancy s) gk) = .ok g ∧ writeSlp g = .ok (r.encodeG s.version (portOccupancy s) gk) :=
  C01_any T r s (some gk) h.toAny hmax

#print axioms C01_A
#print axioms C01_B
#print axioms C01_C
#print axioms C01_G

/-- **C07 (`.slp`), every version, full parse**: every proper prefix of the canonical file of a well-formed replay is
    rejected with an error (hashing on or off). -/
theorem C07_any (T : TextOracle) (r : Replay) (s : Start) (gk : Option GeckoBlocks) (h : r.WFAny T s gk) (hash : Bool)
    (n : Nat) (hn : n < (r.encodeAny s.version (portOccupancy s) gk).length) :
    ∃ e, readSlp T { skipFrames := false, computeHash := hash } ((r.encodeAny s.version (portOccupancy s) gk).take n) = .err e := by
  obtain ⟨ge, _, hok⟩ := C04_any T r s gk h
  exact C07_of_read hok hash n hn

/-- **C07 (`.slp`), every version, skip-frames parse** of a finished replay. -/
theorem C07_any_skip (T : TextOracle) (r : Replay) (s : Start) (gk : Option GeckoBlocks) (h : r.WFAny T s gk)
    (e : Bytes) (hfe : r.fend = some e) (hash : Bool)
    (n : Nat) (hn : n < (r.encodeAny s.version (portOccupancy s) gk).length) :
    ∃ err, readSlp T { skipFrames := true, computeHash := hash } ((r.encodeAny s.version (portOccupancy s) gk).take n) = .err err := by
  obtain ⟨ge, _, hskip⟩ := C10_any T r s gk h e hfe hash
  exact C07_slp_general T _ _ _ hskip n hn

/-- **C10 / C11 (`.slp`), every version**: full and skip-frames reads of a finished well-formed replay agree on start,
    end and metadata, hash the same range (the whole file) and the skipping one has the empty frame set. -/
theorem C10_any_agree (T : TextOracle) (r : Replay) (s : Start) (gk : Option GeckoBlocks) (h : r.WFAny T s gk)
    (e : Bytes) (hfe : r.fend = some e) (hash : Bool) :
    ∃ gFull gSkip, readSlp T { skipFrames := false, computeHash := hash } (r.encodeAny s.version (portOccupancy s) gk) = .ok gFull ∧
      readSlp T { skipFrames := true, computeHash := hash } (r.encodeAny s.version (portOccupancy s) gk) = .ok gSkip ∧
      gSkip.start = gFull.start ∧ gSkip.fend = gFull.fend ∧ gSkip.metadata = gFull.metadata ∧ gSkip.hashedLen = gFull.hashedLen ∧
      gFull.hashedLen = (if hash then some (r.encodeAny s.version (portOccupancy s) gk).length else none) ∧
      gSkip.frames = FCols.new s.version (portOccupancy s) := by
  obtain ⟨ge, hge⟩ := (h.endOK e hfe).2.2
  refine ⟨_, _, readSlp_full_any h (parsedEnd_some hfe hge) hash, readSlp_skip_any h hfe hge hash, ?_⟩
  rw [Replay.gameAny_eq]
  exact ⟨rfl, rfl, rfl, rfl, rfl, rfl⟩

/-- **C10 (`.slp`, ≥ 3.0)** -/
theorem C10_slp_A (T : TextOracle) (r : Replay) (s : Start) (h : r.WF T s) (e : Bytes) (hfe : r.fend = some e) (hash : Bool) :
    ∃ gFull gSkip, readSlp T { skipFrames := false, computeHash := hash } (r.encode s.version (portOccupancy s)) = .ok gFull ∧
      readSlp T { skipFrames := true, computeHash := hash } (r.encode s.version (portOccupancy s)) = .ok gSkip ∧
      gSkip.start = gFull.start ∧ gSkip.fend = gFull.fend ∧ gSkip.metadata = gFull.metadata ∧ gSkip.hashedLen = gFull.hashedLen ∧
      gSkip.frames = FCols.new s.version (portOccupancy s) := by
  obtain ⟨gF, gS, h1, h2, a, b, c, d, _, f⟩ := C10_any_agree T r s none h.toAny e hfe hash
  rw [h.encodeAny_eq] at h1 h2
  exact ⟨gF, gS, h1, h2, a, b, c, d, f⟩

#print axioms C10_slp_A

/-- **C11 (the range that is hashed), every version**: on the canonical file of any well-formed replay (finished or not) the full
    reader hashes exactly the whole file when hashing is requested and reports no hash otherwise -/
theorem C11_range_any (T : TextOracle) (r : Replay) (s : Start) (gk : Option GeckoBlocks) (h : r.WFAny T s gk) (hash : Bool) :
    ∃ g, readSlp T { skipFrames := false, computeHash := hash } (r.encodeAny s.version (portOccupancy s) gk) = .ok g ∧
      g.hashedLen = (if hash then some (r.encodeAny s.version (portOccupancy s) gk).length else none) := by
  obtain ⟨ge, hge⟩ := h.parsedEnd
  exact ⟨_, readSlp_full_any h hge hash, rfl⟩

/-- **C11 (the range that is hashed, ≥ 3.0)**: with hashing on, the hashed range is the whole file, frames skipped or not;
    with hashing off there is no hash -/
theorem C11_range_A (T : TextOracle) (r : Replay) (s : Start) (h : r.WF T s) :
    (∃ g, readSlp T { skipFrames := false, computeHash := true } (r.encode s.version (portOccupancy s)) = .ok g ∧
        g.hashedLen = some (r.encode s.version (portOccupancy s)).length) ∧
    (∃ g, readSlp T { skipFrames := false, computeHash := false } (r.encode s.version (portOccupancy s)) = .ok g ∧
        g.hashedLen = none) ∧
    (∀ e, r.fend = some e → ∃ g, readSlp T { skipFrames := true, computeHash := true } (r.encode s.version (portOccupancy s)) = .ok g ∧
        g.hashedLen = some (r.encode s.version (portOccupancy s)).length) := by
  rw [← h.encodeAny_eq]
  refine ⟨C11_range_any T r s none h.toAny true, C11_range_any T r s none h.toAny false, fun e hfe => ?_⟩
  obtain ⟨ge, hge⟩ := (h.endOK e hfe).2.2
  exact ⟨_, readSlp_skip_any h.toAny hfe hge true, rfl⟩
#print axioms C11_range_A
#print axioms C11_range_any


end Peppi
