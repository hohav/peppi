import Peppi.Lemmas.C13
/-! C13, in-progress clause, from the prefix relation `FCols.Ext` that every event preserves (`eventLoop_extends`): a row view
    only looks at index `i` of each column, and at the item rows between two consecutive offsets. -/
namespace Peppi

/-- a character's row at a completed index does not change when its columns grow -/
theorem DCols.rowView_ext (a b : DCols) (h : a.Ext b) (i : Nat)
    (h1 : i < a.pre.length) (h2 : i < a.post.length) (h3 : i < a.vlist.length) : a.rowView i = b.rowView i := by
  obtain ⟨hp, hq, hv⟩ := h
  rw [DCols.rowView_eq, DCols.rowView_eq, ← prefix_getElem? hp h1, ← prefix_getElem? hq h2]
  have : a.vlist.getD i true = b.vlist.getD i true := by
    simp only [List.getD_eq_getElem?_getD, prefix_getElem? hv h3]
  rw [this]

/-- the item slice of a frame whose closing offset is known and lies inside the item rows present -/
theorem itemsView_ext (offs offs' : List Nat) (items items' : SCols) (ho : offs <+: offs') (hi : items <+: items') (i : Nat)
    (h1 : i + 1 < offs.length) (hle : ∀ b, offs[i+1]? = some b → b ≤ items.length) :
    itemsView offs items i = itemsView offs' items' i := by
  have h0 : i < offs.length := Nat.lt_of_succ_lt h1
  -- the two offsets of frame `i`: `a` opens its slice, `b` closes it
  obtain ⟨a, ha⟩ : ∃ a, offs[i]? = some a := ⟨_, List.getElem?_eq_getElem h0⟩
  obtain ⟨b, hb⟩ : ∃ b, offs[i+1]? = some b := ⟨_, List.getElem?_eq_getElem h1⟩
  have hble : b ≤ items.length := hle b hb
  obtain ⟨t, rfl⟩ := hi
  unfold itemsView
  rw [← prefix_getElem? ho h0, ← prefix_getElem? ho h1, ha, hb]
  show some _ = some _
  by_cases hab : a ≤ items.length
  · -- the slice starts and ends inside the item rows present
    have hlen : b - a ≤ (items.drop a).length := by
      rw [List.length_drop]
      omega
    rw [List.drop_append_of_le_length hab, List.take_append_of_le_length hlen]
  · -- an opening offset past the rows present gives an empty slice on both sides
    have hzero : b - a = 0 := by omega
    rw [hzero, List.take_zero, List.take_zero]

/-- **C13, in-progress representation**: when the columns `F` extend to `F'` (any number of further events), every completed frame
    has the same row view on both: id, Frame Start / Frame End rows, each port's leader and follower rows, the item slice.
    "Completed" is spelled out per column: the index is present in it (for items: the closing offset is present, inside the item rows). -/
theorem FCols.rowView_ext (F F' : FCols) (h : F.Ext F') (i : Nat) (hid : i < F.id.length) :
    F.id[i]? = F'.id[i]? ∧
    ((∀ l, F.start = some l → i < l.length) → F.start.bind (·[i]?) = F'.start.bind (·[i]?)) ∧
    ((∀ l, F.fend = some l → i < l.length) → F.fend.bind (·[i]?) = F'.fend.bind (·[i]?)) ∧
    (∀ (k : Nat) (p : PCols), F.ports[k]? = some p → ∃ q : PCols, F'.ports[k]? = some q ∧ p.port = q.port ∧
      (i < p.leader.pre.length → i < p.leader.post.length → i < p.leader.vlist.length → p.leader.rowView i = q.leader.rowView i) ∧
      (∀ d, p.follower = some d → ∃ d', q.follower = some d' ∧
        (i < d.pre.length → i < d.post.length → i < d.vlist.length → d.rowView i = d'.rowView i))) ∧
    (∀ offs items, F.itemOff = some offs → F.item = some items → i + 1 < offs.length →
      (∀ b, offs[i+1]? = some b → b ≤ items.length) →
      ∃ offs' items', F'.itemOff = some offs' ∧ F'.item = some items' ∧ itemsView offs items i = itemsView offs' items' i) := by
  obtain ⟨hi, hp, hs, he, ho, hit⟩ := h
  refine ⟨prefix_getElem? hi hid, fun hl => optCol_ext _ _ hs i hl, fun hl => optCol_ext _ _ he i hl, ?_, ?_⟩
  · intro k p hk
    obtain ⟨q, hq, hport, hlead, hfol⟩ := portsExt_get _ _ hp k p hk
    refine ⟨q, hq, hport, DCols.rowView_ext _ _ hlead i, fun d hd => ?_⟩
    rw [hd] at hfol
    obtain ⟨d', hq', hdd⟩ := OptExt.of_some hfol
    exact ⟨d', hq', DCols.rowView_ext _ _ hdd i⟩
  · intro offs items hof hitm h1 hle
    rw [hof] at ho
    rw [hitm] at hit
    obtain ⟨offs', ho', hoo⟩ := OptExt.of_some ho
    obtain ⟨items', hi', hii⟩ := OptExt.of_some hit
    exact ⟨offs', items', ho', hi', itemsView_ext _ _ _ _ hoo hii i h1 hle⟩

/-- … and the event loop only ever extends the columns: the row view of a completed frame taken at any point of an incremental
    parse is the one the finished game gives -/
theorem C13_inprogress (fuel rawLen : Nat) (ps : ParseState) (bs : Bytes) (ps' : ParseState) (rest : Bytes)
    (h : eventLoop fuel rawLen ps bs = .ok (ps', rest)) (i : Nat) (hid : i < ps.st.frames.id.length) :
    ps.st.frames.id[i]? = ps'.st.frames.id[i]? ∧
    (∀ (k : Nat) (p : PCols), ps.st.frames.ports[k]? = some p → ∃ q : PCols, ps'.st.frames.ports[k]? = some q ∧ p.port = q.port ∧
      (i < p.leader.pre.length → i < p.leader.post.length → i < p.leader.vlist.length → p.leader.rowView i = q.leader.rowView i)) := by
  have hext : ps.st.frames.Ext ps'.st.frames := eventLoop_extends fuel rawLen ps bs ps' rest h
  obtain ⟨hids, _, _, hports, _⟩ := FCols.rowView_ext _ _ hext i hid
  refine ⟨hids, ?_⟩
  intro k p hk
  obtain ⟨q, hq, hport, hl, _⟩ := hports k p hk
  exact ⟨q, hq, hport, hl⟩

#print axioms FCols.rowView_ext
#print axioms C13_inprogress

/-- non-vacuity: an in-progress character (two completed rows, a third frame with only its pre row, no bitmap yet) against the same
    character later (third frame complete, a fourth in which it is absent — so a bitmap exists): hypotheses met at rows 0 and 1,
    same row views -/
def exProgress : DCols := ⟨[some [1], some [2], some [3]], [some [10], some [20]], none⟩
def exLater : DCols := ⟨[some [1], some [2], some [3], none], [some [10], some [20], some [30], none], some [true, true, true, false]⟩
example : exProgress.Ext exLater := by
  refine ⟨⟨[none], rfl⟩, ⟨[some [30], none], rfl⟩, ⟨[false], rfl⟩⟩
example : exProgress.rowView 1 = exLater.rowView 1 ∧ exProgress.rowView 1 = some (some ⟨[2], [20]⟩) := by
  refine ⟨DCols.rowView_ext _ _ ⟨⟨[none], rfl⟩, ⟨[some [30], none], rfl⟩, ⟨[false], rfl⟩⟩ 1 (by decide) (by decide) (by decide), by decide⟩
/-- … and the guard matters: at row 2 (post row not there yet) the in-progress view has nothing to show, the later one has the row -/
example : exProgress.rowView 2 = none ∧ exLater.rowView 2 = some (some ⟨[3], [30]⟩) := by decide
/-- items: offsets [0,1,3] over three item rows, later [0,1,3,3,4] over four -/
example : itemsView [0, 1, 3] [some [7], some [8], some [9]] 1 = itemsView [0, 1, 3, 3, 4] [some [7], some [8], some [9], some [5]] 1 :=
  itemsView_ext _ _ _ _ ⟨[3, 4], rfl⟩ ⟨[some [5]], rfl⟩ 1 (by decide) (by intro b hb; simp at hb; subst hb; decide)
end Peppi
