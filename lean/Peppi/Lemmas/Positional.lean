import Peppi.Start
import Peppi.Lemmas.Wp
/-! Basis of C05: on a block of known length a sequential `Rd` parser equals an explicit function of absolute offsets. -/
namespace Peppi

/-- on every block of length `L`, running `p` at offset `off` consumes `w` bytes and returns `f b` -/
def Rd.AtL {α} (L : Nat) (p : Rd α) (off w : Nat) (f : Bytes → Res α) : Prop :=
  ∀ b : Bytes, b.length = L → off + w ≤ L →
    p (b.drop off) = match f b with | .ok a => .ok (a, b.drop (off + w)) | .err e => .err e | .panic s => .panic s

/-! Stepping through a parser on one block `b`: the input left at offset `off` is `b.drop off`, and each lemma says what
    `p >>= k` does there.  The bound is `off + n ≤ G` for some `G ≤ b.length`, closed arithmetic once all three are numerals. -/
variable {α β : Type} {b : Bytes} {off : Nat}

theorem Rd.take_drop (n : Nat) (h : off + n ≤ b.length) : Rd.take n (b.drop off) = .ok ((b.drop off).take n, b.drop (off + n)) := by
  rw [Rd.take, List.length_drop, if_neg (Nat.not_lt.2 (Nat.le_sub_of_add_le' h)), List.drop_drop]

theorem Rd.u8_drop (h : off < b.length) : Rd.u8 (b.drop off) = .ok ((b.getD off 0).toNat, b.drop (off + 1)) := by
  rw [List.drop_eq_getElem_cons h, List.getD_eq_getElem?_getD, List.getElem?_eq_getElem h]
  rfl

theorem playerBytes_drop (n m : Nat) (h : off + n * m ≤ b.length) :
    playerBytes n m (b.drop off) = .ok ((List.range m).map (fun i => (b.drop (off + n * i)).take n), b.drop (off + n * m)) := by
  rw [playerBytes, List.length_drop, if_neg (Nat.not_lt.2 (Nat.le_sub_of_add_le' h))]
  simp only [List.drop_drop]

section
variable {G : Nat} (hG : G ≤ b.length)
include hG
theorem Rd.u8_bind (k : Nat → Rd β) (h : off + 1 ≤ G) :
    (Rd.u8 >>= k) (b.drop off) = k (b.getD off 0).toNat (b.drop (off + 1)) := Rd.bind_ok (Rd.u8_drop (Nat.lt_of_lt_of_le h hG))
theorem Rd.take_bind (n : Nat) (k : Bytes → Rd β) (h : off + n ≤ G) :
    (Rd.take n >>= k) (b.drop off) = k ((b.drop off).take n) (b.drop (off + n)) := Rd.bind_ok (Rd.take_drop n (Nat.le_trans h hG))
theorem Rd.be_bind (n : Nat) (k : Nat → Rd β) (h : off + n ≤ G) :
    (Rd.be n >>= k) (b.drop off) = k (fromBE ((b.drop off).take n)) (b.drop (off + n)) :=
  Rd.bind_ok (Rd.bind_ok (Rd.take_drop n (Nat.le_trans h hG)))
theorem Rd.skip_bind (n : Nat) (k : Unit → Rd β) (h : off + n ≤ G) :
    (Rd.skip n >>= k) (b.drop off) = k () (b.drop (off + n)) :=
  Rd.bind_ok (Rd.bind_ok (Rd.take_drop n (Nat.le_trans h hG)))
theorem playerBytes_bind (n m : Nat) (k : List Bytes → Rd β) (h : off + n * m ≤ G) :
    (playerBytes n m >>= k) (b.drop off) = k ((List.range m).map (fun i => (b.drop (off + n * i)).take n)) (b.drop (off + n * m)) :=
  Rd.bind_ok (playerBytes_drop n m (Nat.le_trans h hG))
end

/-- `if_more p` in front of an optional group of fields `[off, e)`, on a block that holds the whole group or ends before it:
    `r` is what `p` (with `some` put on its result) yields when the group is there -/
theorem ifMore_bind {p : Rd α} {k : Option α → Rd β} (e : Nat) (r : Res (Option α)) (hoff : off < e)
    (hcut : off < b.length → e ≤ b.length)
    (hp : e ≤ b.length → (p >>= fun a => pure (some a)) (b.drop off) = r >>= fun o => .ok (o, b.drop e)) :
    (ifMore p >>= k) (b.drop off) = (if e ≤ b.length then r else .ok none) >>= fun o => k o (b.drop e) := by
  by_cases h : off < b.length
  · have hne : (b.drop off).isEmpty = false := by
      rw [List.isEmpty_eq_false_iff, ← List.length_pos_iff, List.length_drop]; omega
    have : (ifMore p >>= k) (b.drop off) = ((p >>= fun a => pure (some a)) >>= k) (b.drop off) := by
      simp only [ifMore, bind, Rd.isEmpty, hne, Bool.false_eq_true, ↓reduceIte]
    rw [this, if_pos (hcut h), Rd.bind_of_eq (hp (hcut h))]
  · rw [if_neg (by omega), List.drop_eq_nil_of_le (by omega : b.length ≤ off), List.drop_eq_nil_of_le (by omega : b.length ≤ e)]
    rfl

/-- the same when `p` cannot fail -/
theorem ifMore_bind_ok {p : Rd α} {k : Option α → Rd β} (e : Nat) {a : α} (hoff : off < e)
    (hcut : off < b.length → e ≤ b.length) (hp : e ≤ b.length → p (b.drop off) = .ok (a, b.drop e)) :
    (ifMore p >>= k) (b.drop off) = k (if e ≤ b.length then some a else none) (b.drop e) := by
  rw [ifMore_bind e (.ok (some a)) hoff hcut (fun h => Rd.bind_ok (hp h))]
  split <;> rfl

theorem Rd.atL_of_eq {L : Nat} {p : Rd α} {f : Bytes → Res α}
    (h : ∀ b : Bytes, b.length = L → p b = f b >>= fun a => .ok (a, b.drop L)) : Rd.AtL L p 0 L f := by
  intro b hb _
  rw [List.drop_zero, Nat.zero_add, h b hb]
  cases f b <;> rfl
end Peppi
