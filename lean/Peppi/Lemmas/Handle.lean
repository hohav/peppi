import Peppi.Read
/-! `handleEvent`, arm by arm: one equation (by `rfl`) per known event code, so that a proof about one kind of event rewrites
    with the equation of its arm instead of unfolding the whole `match event` of `parse_event`.  The arm for unknown
    codes: `handle_unknown` (C08.lean). -/
namespace Peppi
open Extracted

variable (st : PState) (buf : Bytes)

theorem handleEvent_payloads : handleEvent st EV_PAYLOADS buf = .err "Duplicate payloads event" := rfl

theorem handleEvent_splitter : handleEvent st EV_SPLITTER buf = .ok st := rfl

theorem handleEvent_gecko : handleEvent st EV_GECKO buf = .ok { st with gecko := some ⟨buf, st.splitActual⟩ } := rfl

theorem handleEvent_gameStart : handleEvent st EV_GAME_START buf = .err "Duplicate start event" := rfl

theorem handleEvent_gameEnd : handleEvent st EV_GAME_END buf = (do let e ← gameEnd buf; pure { st with fend := some e }) := rfl

theorem handleEvent_frameStart : handleEvent st EV_FRAME_START buf = (do
    let v := st.start.version
    let st := if v.lt 3 0 then { st with frames := st.frames.close } else st
    let (id, r) ← i32At buf
    match st.frames.start with
    | none => .err "unexpected Frame Start event"
    | some sc =>
      let row ← rowOrEof v Start.readPush r
      pure { st with frames := { st.frames with id := st.frames.id ++ [id], start := some (sc ++ [some row]) } }) := rfl

theorem handleEvent_pre : handleEvent st EV_FRAME_PRE buf = (do
    let v := st.start.version
    let (id, r) ← i32At buf
    if r.length < 2 then .err "eof" else
    let port := (r.getD 0 0).toNat
    let isFollower := (r.getD 1 0) != 0
    let r := r.drop 2
    let _ ← st.slotIdx port isFollower
    let st ← (if v.gte 2 2 then do st.expectId id; pure st
      else
        let last := st.lastId.getD (FIRST_INDEX - 1)
        if last + 1 ≤ 2147483647 ∧ last + 1 = id then
          pure { st with frames := { st.frames.close with id := st.frames.id ++ [id] } }
        else do st.expectId id; pure st)
    let pi ← st.slotIdx port isFollower
    let row ← rowOrEof v Pre.readPush r
    pure (st.updSlot pi isFollower (·.pushPre row))) := rfl

theorem handleEvent_post : handleEvent st EV_FRAME_POST buf = (do
    let (id, r) ← i32At buf
    if r.length < 2 then .err "eof" else
    let port := (r.getD 0 0).toNat
    let isFollower := (r.getD 1 0) != 0
    let r := r.drop 2
    st.expectId id
    let pi ← st.slotIdx port isFollower
    let row ← rowOrEof st.start.version Post.readPush r
    pure (st.updSlot pi isFollower (·.pushPost row))) := rfl

theorem handleEvent_frameEnd : handleEvent st EV_FRAME_END buf = (do
    let (id, r) ← i32At buf
    match st.frames.fend with
    | none => .err "unexpected Frame End event"
    | some ec =>
      st.expectId id
      match st.frames.itemOff, st.frames.item with
      | some offs, some items =>
        let old := offs.getLastD 0
        if items.length < old then .panic "checked_sub" else
        let row ← rowOrEof st.start.version End.readPush r
        let f := { st.frames with itemOff := some (offs ++ [items.length]), fend := some (ec ++ [some row]) }
        pure { st with frames := f.close }
      | _, _ => .panic "item_offset unwrap") := rfl

theorem handleEvent_item : handleEvent st EV_ITEM buf = (do
    let (id, r) ← i32At buf
    match st.frames.item with
    | none => .err "unexpected Item event"
    | some items =>
      st.expectId id
      let row ← rowOrEof st.start.version Item.readPush r
      pure { st with frames := { st.frames with item := some (items ++ [some row]) } }) := rfl

end Peppi
