import Peppi.Lemmas.Tail
import Peppi.Lemmas.Fuel
/-! The read theorem for a `.slp` file in the general shape (`GFile`): header, payload table, Game Start, a *middle* (whatever
    stands before Game End, of which the reader needs only `MidRun`), optionally Game End and extra bytes up to the declared raw
    length (a duplicated Game End is the case that looks like one), metadata. -/
namespace Peppi
open Extracted

/-- the event loop, started in `ps0` on `mid ++ rest`, consumes `mid` and continues in `psF` on `rest` — for every declared
    raw length that covers `mid` (or 0 = in-progress replay) -/
def MidRun (ps0 : ParseState) (mid : Bytes) (psF : ParseState) : Prop :=
  ∀ rawLen rest, (rawLen = 0 ∨ ps0.bytesRead + mid.length ≤ rawLen) →
    eventLoop ((mid ++ rest).length + 1) rawLen ps0 (mid ++ rest) = eventLoop (rest.length + 1) rawLen psF rest

theorem MidRun.nil (ps : ParseState) : MidRun ps [] ps := by
  intro rawLen rest _; rfl

theorem MidRun.trans {a b c : ParseState} {m1 m2 : Bytes} (h1 : MidRun a m1 b) (h2 : MidRun b m2 c)
    (hb : b.bytesRead = a.bytesRead + m1.length) : MidRun a (m1 ++ m2) c := by
  intro rawLen rest hraw
  have hlen : (m1 ++ m2).length = m1.length + m2.length := List.length_append
  have e1 := h1 rawLen (m2 ++ rest) (hraw.imp_right fun h => by omega)
  have e2 := h2 rawLen rest (hraw.imp_right fun h => by omega)
  rw [List.append_assoc, e1, e2]

/-- `trans` for middles that count their own bytes, as all of them do -/
theorem MidRun.append {a : ParseState} {sb sc : PState} {m1 m2 : Bytes} (h1 : MidRun a m1 ⟨sb, a.bytesRead + m1.length⟩)
    (h2 : MidRun ⟨sb, a.bytesRead + m1.length⟩ m2 ⟨sc, a.bytesRead + m1.length + m2.length⟩) :
    MidRun a (m1 ++ m2) ⟨sc, a.bytesRead + (m1 ++ m2).length⟩ := by
  rw [List.length_append, ← Nat.add_assoc]
  exact h1.trans h2 rfl

theorem MidRun.one (ps ps' : ParseState) (ev : Bytes) (code : Nat) (hne : code ≠ EV_GAME_END) (hpos : 0 < ev.length)
    (hparse : ∀ rest, parseEvent ps (ev ++ rest) = .ok ((code, ps'), rest)) : MidRun ps ev ps' := by
  intro rawLen rest hraw
  rw [eventLoop_step (hparse rest) hne (hraw.imp id fun h => by omega)]
  exact eventLoop_fuel _ _ _ _ _ (by rw [List.length_append]; omega) (by omega)

theorem MidRun.events (ps : ParseState) (es : List (Nat × Bytes)) (st' : PState)
    (hdecl : ∀ e ∈ es, e.1 < 256 ∧ e.1 ≠ EV_SPLITTER ∧ e.1 ≠ EV_GAME_END ∧ sizeOfEv ps.st.sizes e.1 = some e.2.length)
    (hrun : runEvents ps.st es = .ok st') :
    MidRun ps (encEvents es) { st := st', bytesRead := ps.bytesRead + (encEvents es).length } := by
  intro rawLen rest hraw
  have hle : es.length ≤ (encEvents es ++ rest).length := by have := events_le_bytes es; simp; omega
  have := eventLoop_run rawLen es (encEvents es ++ rest).length ps st' rest hle hdecl hrun hraw
  rw [this]
  apply eventLoop_fuel
  · have := events_le_bytes es; simp only [List.length_append]; omega
  · omega

def portIdxOf (shape : List PortOccupancy) : List (Option Nat) := (List.range 4).map fun p => shape.findIdx? (·.port == p)

/-- the Payloads event: the raw element up to Game Start -/
def tablePrefix (t : List (Nat × Nat)) : Bytes := [0x35, UInt8.ofNat (3 * t.length + 1)] ++ encTable t

/-- the state after `parse_start` -/
def ps0T (t : List (Nat × Nat)) (startLen : Nat) (s : Start) : ParseState :=
  { st := { sizes := t.reverse, splitRaw := [], splitActual := 0, portIdx := portIdxOf (portOccupancy s), start := s,
            fend := none, frames := FCols.new s.version (portOccupancy s), metadata := none, gecko := none, doubleGameEnd := none },
    bytesRead := 1 + (3 * t.length + 1) + startLen + 1 }

theorem parseStart_gen (T : TextOracle) (t : List (Nat × Nat)) (sb : Bytes) (s : Start) (el : Nat)
    (hs : gameStart T sb = .ok s) (ht : TableOK t) (hlen : 3 * t.length + 1 < 256) (hnd : (t.map Prod.fst).Nodup)
    (hGS : (EV_GAME_START, sb.length) ∈ t) (hGE : (EV_GAME_END, el) ∈ t) (rest : Bytes) :
    parseStart T (tablePrefix t ++ (encEvent (EV_GAME_START, sb) ++ rest)) = .ok (ps0T t sb.length s, rest) := by
  have hcode : (UInt8.ofNat EV_GAME_START).toNat = EV_GAME_START := by decide
  simp only [parseStart, bind, tablePrefix]
  rw [parsePayloads_enc t ht hlen hnd sb.length el hGS hGE]
  simp only [parseGameStart, bind, encEvent, List.cons_append, Rd.u8, hcode, sizeOfEv_reverse t hnd _ _ hGS,
    Rd.take_append sb rest rfl, ↓reduceIte, Rd.lift, hs, pure, portIdxOf, ps0T]

structure GFile where
  table : List (Nat × Nat)
  startBlock : Bytes
  mid : Bytes
  fend : Option Bytes
  /-- bytes between Game End and the declared end of the raw element -/
  extra : Bytes
  metadata : Option KVs

def GFile.endPart (f : GFile) : Bytes := (match f.fend with | some e => encEvent (EV_GAME_END, e) | none => []) ++ f.extra

def GFile.raw (f : GFile) : Bytes :=
  tablePrefix f.table ++ (encEvent (EV_GAME_START, f.startBlock) ++ (f.mid ++ f.endPart))

def GFile.encode (f : GFile) : Bytes :=
  FILE_SIGNATURE ++ (toBE 4 f.raw.length ++ (f.raw ++ metaBytes f.metadata))

structure GFile.WF (T : TextOracle) (f : GFile) (s : Start) (psF : ParseState) : Prop where
  start : gameStart T f.startBlock = .ok s
  tableOK : TableOK f.table
  nodup : (f.table.map Prod.fst).Nodup
  /-- the Payloads event gives its own size in one byte -/
  tableLen : 3 * f.table.length + 1 < 256
  declStart : (EV_GAME_START, f.startBlock.length) ∈ f.table
  declEnd : ∃ el, (EV_GAME_END, el) ∈ f.table ∧ ∀ e, f.fend = some e → el = e.length
  mid : MidRun (ps0T f.table f.startBlock.length s) f.mid psF
  midBytes : psF.bytesRead = (ps0T f.table f.startBlock.length s).bytesRead + f.mid.length
  sizes : psF.st.sizes = f.table.reverse
  fstart : psF.st.start = s
  ffend : psF.st.fend = none
  fmeta : psF.st.metadata = none
  fdge : psF.st.doubleGameEnd = none
  endOK : ∀ e, f.fend = some e → ∃ ge, gameEnd e = .ok ge
  /-- extra bytes only after a Game End -/
  extraOK : f.fend = none → f.extra = []
  metadata : ∀ m, f.metadata = some m → KVs.WF T.utf8Ok 1 m
  rawLen : f.raw.length < 256 ^ 4

theorem GFile.raw_length (f : GFile) (s : Start) :
    f.raw.length = (ps0T f.table f.startBlock.length s).bytesRead + (f.mid ++ f.endPart).length := by
  simp only [GFile.raw, tablePrefix, encTable_length, encEvent, ps0T, List.length_append, List.length_cons, List.length_nil]
  omega

/-- the parser does not look at the hash option, so a result obtained under one setting serves every other -/
theorem readSlp_of_readP {T : TextOracle} {skip h0 : Bool} {x : Bytes} {g : Game}
    (h : readP T { skipFrames := skip, computeHash := h0 } x = .ok (g, [])) (hash : Bool) :
    readSlp T { skipFrames := skip, computeHash := hash } x = .ok { g with hashedLen := if hash then some x.length else none } := by
  unfold readSlp
  rw [show readP T { skipFrames := skip, computeHash := hash } = readP T { skipFrames := skip, computeHash := h0 } from rfl, h]
  rfl

theorem MidRun.loopTail {a b : ParseState} {m : Bytes} (h : MidRun a m b) (T : TextOracle) (rawLen : Nat) (rest : Bytes)
    (hraw : rawLen = 0 ∨ a.bytesRead + m.length ≤ rawLen) : loopTail T rawLen a (m ++ rest) = loopTail T rawLen b rest := by
  simp only [Peppi.loopTail, bind, h rawLen rest hraw]

/-- from a state in front of the last Game End; `x` is what is left of the raw element behind it -/
theorem loopTail_end (T : TextOracle) (rawLen : Nat) (ps : ParseState) (e : Bytes) (ge : End) (x : Bytes) (md : Option KVs)
    (hsz : sizeOfEv ps.st.sizes EV_GAME_END = some e.length) (hge : gameEnd e = .ok ge)
    (hraw : ps.bytesRead + (e.length + 1) + x.length = rawLen)
    (hmd : ps.st.metadata = none) (hwf : ∀ m, md = some m → KVs.WF T.utf8Ok 1 m) :
    loopTail T rawLen ps (encEvent (EV_GAME_END, e) ++ (x ++ metaBytes md)) =
      .ok (gameOf ({ ps.st with fend := some ge } : PState).closed md (dgeOf ps.st.start.version x ps.st.doubleGameEnd), []) := by
  simp only [loopTail, bind]
  rw [loop_end _ rawLen ps e ge _ hsz hge (by omega)]
  exact readTail_gen T rawLen ⟨{ ps.st with fend := some ge }, ps.bytesRead + e.length + 1⟩ md x (by dsimp only; omega) hmd hwf

theorem readP_front (T : TextOracle) (opts : Opts) (f : GFile) (s : Start) (el : Nat)
    (hs : gameStart T f.startBlock = .ok s) (ht : TableOK f.table) (hlen : 3 * f.table.length + 1 < 256)
    (hnd : (f.table.map Prod.fst).Nodup) (hGS : (EV_GAME_START, f.startBlock.length) ∈ f.table) (hGE : (EV_GAME_END, el) ∈ f.table)
    (hraw : f.raw.length < 256 ^ 4) :
    readP T opts f.encode =
      ((if opts.skipFrames then skipToEnd f.raw.length (ps0T f.table f.startBlock.length s) else pure (ps0T f.table f.startBlock.length s))
        >>= loopTail T f.raw.length) (f.mid ++ (f.endPart ++ metaBytes f.metadata)) := by
  have hstart := parseStart_gen T f.table f.startBlock s el hs ht hlen hnd hGS hGE (f.mid ++ (f.endPart ++ metaBytes f.metadata))
  rw [show tablePrefix f.table ++ (encEvent (EV_GAME_START, f.startBlock) ++ (f.mid ++ (f.endPart ++ metaBytes f.metadata))) =
    f.raw ++ metaBytes f.metadata by simp only [GFile.raw, List.append_assoc]] at hstart
  show (parseHeader >>= fun rawLen => parseStart T >>= fun ps => _) f.encode = _
  simp only [GFile.encode, bind, parseHeader_enc _ hraw, hstart]

/-- **General file-level read theorem.**  The reader consumes a file of the general shape to its last byte and returns the
    state the middle leads to — closed below 3.0 — with the Game End block parsed, the metadata tree, and the
    duplicated-Game-End quirk set exactly when the extra bytes look like one more Game End. -/
theorem readP_gen (T : TextOracle) (f : GFile) (s : Start) (psF : ParseState) (h : f.WF T s psF) :
    ∃ ge : Option End, f.fend.map gameEnd = ge.map Res.ok ∧
      readP T {} f.encode =
        .ok (gameOf ({ psF.st with fend := ge } : PState).closed f.metadata (dgeOf s.version f.extra none), []) := by
  obtain ⟨el, hGE, hel⟩ := h.declEnd
  have hrl := f.raw_length s
  rw [List.length_append, ← Nat.add_assoc, ← h.midBytes] at hrl
  rw [readP_front T {} f s el h.start h.tableOK h.tableLen h.nodup h.declStart hGE h.rawLen]
  simp only [Bool.false_eq_true, ↓reduceIte, bind, pure]
  rw [h.mid.loopTail T f.raw.length _ (by right; rw [hrl, h.midBytes]; omega)]
  cases hfe : f.fend with
  | none =>
    -- no Game End: the loop stops at the declared length, and nothing is extra
    have hep : f.endPart = [] := by simp [GFile.endPart, hfe, h.extraOK hfe]
    rw [hep, List.length_nil, Nat.add_zero] at hrl
    have hst : ({ psF.st with fend := none } : PState) = psF.st := by rw [← h.ffend]
    refine ⟨none, rfl, ?_⟩
    simp only [loopTail, bind]
    rw [hep, List.nil_append, eventLoop_done _ _ _ _ (by simp [GFile.raw, tablePrefix]) (by omega), hst]
    dsimp only  -- the `match` of `loopTail` on the loop's result
    have ht := readTail_gen T f.raw.length psF f.metadata [] hrl.symm h.fmeta h.metadata
    rw [List.nil_append] at ht
    rw [ht, h.extraOK hfe, h.fstart, h.fdge]
  | some e =>
    obtain ⟨ge, hge⟩ := h.endOK e hfe
    have hep : f.endPart = encEvent (EV_GAME_END, e) ++ f.extra := by simp [GFile.endPart, hfe]
    have hsize : sizeOfEv psF.st.sizes EV_GAME_END = some e.length := by
      rw [h.sizes, ← hel e hfe]; exact sizeOfEv_reverse _ h.nodup _ _ hGE
    rw [hep, List.length_append, show (encEvent (EV_GAME_END, e)).length = e.length + 1 from rfl] at hrl
    refine ⟨some ge, by simp [hge], ?_⟩
    rw [hep, List.append_assoc, loopTail_end T _ psF e ge f.extra f.metadata hsize hge (by omega) h.fmeta h.metadata]
    simp only [h.fstart, h.fdge]

#print axioms readP_gen
end Peppi
