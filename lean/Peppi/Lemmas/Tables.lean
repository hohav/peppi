import Peppi.Lemmas.History
/-! About the payload-size tables of the canonical files (`canonTable…`, `History.lean`).  The three framing regimes differ in which
    events a frame has: `frameEventsIf` has the difference as two Booleans, and `canonEventsAny_eq`, `canonTableAny_flat` put the
    events and the table of any version in that form, which reader and writer share. -/
namespace Peppi
open Extracted

theorem rowSize_le (v : Ver) (L : List Fld) : rowSize v L ≤ (L.map (·.width)).sum := by
  induction L with
  | nil => simp [rowSize]
  | cons f fs ih => simp only [rowSize, List.map_cons, List.sum_cons]; split <;> omega

/-- the widths of all fields add up to 58, 78, 8, 40 and 4 (any bound below 2^16 − 6 serves `canonTable_ok`) -/
theorem rows_bounded (v : Ver) : rowSize v Pre.readPush < 1000 ∧ rowSize v Post.readPush < 1000 ∧ rowSize v Start.readPush < 1000 ∧
      rowSize v Item.readPush < 1000 ∧ rowSize v End.readPush < 1000 := by
  have h1 := rowSize_le v Pre.readPush
  have h2 := rowSize_le v Post.readPush
  have h3 := rowSize_le v Start.readPush
  have h4 := rowSize_le v Item.readPush
  have h5 := rowSize_le v End.readPush
  have e1 : (Pre.readPush.map (·.width)).sum = 58 := by decide +kernel
  have e2 : (Post.readPush.map (·.width)).sum = 78 := by decide +kernel
  have e3 : (Start.readPush.map (·.width)).sum = 8 := by decide +kernel
  have e4 : (Item.readPush.map (·.width)).sum = 40 := by decide +kernel
  have e5 : (End.readPush.map (·.width)).sum = 4 := by decide +kernel
  omega

theorem canonTable_ok (v : Ver) (sl el : Nat) (hs : 0 < sl ∧ sl < 65536) (he : 0 < el ∧ el < 65536)
    (hrows : rowSize v Pre.readPush < 1000 ∧ rowSize v Post.readPush < 1000 ∧ rowSize v Start.readPush < 1000 ∧
      rowSize v Item.readPush < 1000 ∧ rowSize v End.readPush < 1000) :
    TableOK (canonTable v sl el) := by
  intro e he'
  simp only [canonTable, List.mem_cons, List.not_mem_nil, or_false] at he'
  rcases he' with rfl | rfl | rfl | rfl | rfl | rfl | rfl <;>
    (simp only [EV_GAME_START, EV_FRAME_PRE, EV_FRAME_POST, EV_GAME_END, EV_FRAME_START, EV_ITEM, EV_FRAME_END]; omega)

theorem canonTable_nodup (v : Ver) (sl el : Nat) : ((canonTable v sl el).map Prod.fst).Nodup := by
  simp only [canonTable, List.map_cons, List.map_nil]; decide

/-! A frame event is *declared* in the payload table `t` at hand: its code is one of the five frame-event codes (`isFrameEv`; so a
    byte, neither a message splitter nor Game End, and known: `isFrameEv_plain`), and `t` lists it with the length of its payload.
    `t` is a variable, so that each canonical table (and each table with more entries) is an instance. -/

theorem plain_declared {t : List (Nat × Nat)} {v : Ver} {L : List Fld} {row : Row} (code : Nat) (id : Int) (hrow : RowOK v L row)
    (hc : isFrameEv code = true) (ht : (code, 4 + rowSize v L) ∈ t) :
    isFrameEv code = true ∧ (code, (encPlain v L id row).length) ∈ t := by
  rw [encPlain_length _ _ _ _ hrow]; exact ⟨hc, ht⟩

theorem charEvents_declared {t : List (Nat × Nat)} {v : Ver} {shape : List PortOccupancy} {o : FrameOcc} (ho : o.OK v (nSlots shape))
    (hpre : (EV_FRAME_PRE, 6 + rowSize v Pre.readPush) ∈ t) (hpost : (EV_FRAME_POST, 6 + rowSize v Post.readPush) ∈ t) (post : Bool) :
    ∀ e ∈ charEvents post v o.id (slotList shape 0) (presentFrom 0 o.chars), isFrameEv e.1 = true ∧ (e.1, e.2.length) ∈ t := by
  intro e he
  obtain ⟨co, hco, rfl⟩ := List.mem_map.mp he
  obtain ⟨hc, hocc⟩ := presentFrom_ok v (nSlots shape) o ho co hco
  obtain ⟨d, hd⟩ : ∃ d, (slotList shape 0)[co.1]? = some d := ⟨_, List.getElem?_eq_getElem hc⟩
  cases post with
  | true =>
    simp only [charEvent, hd, ↓reduceIte, encChar_length _ _ _ _ _ _ hocc.2]
    exact ⟨rfl, hpost⟩
  | false =>
    simp only [charEvent, hd, Bool.false_eq_true, ↓reduceIte, encChar_length _ _ _ _ _ _ hocc.1]
    exact ⟨rfl, hpre⟩

variable {t : List (Nat × Nat)} {v : Ver} {shape : List PortOccupancy} {o : FrameOcc}

/-- the recorder's events of one frame with Frame Start emitted iff `fs`, items and Frame End iff `fe`: `Frame::write` gates
    them by `fs := v ≥ 2.2`, `fe := v ≥ 3.0`; the three framing regimes are the instances `true true`, `true false`, `false false` -/
def frameEventsIf (fs fe : Bool) (v : Ver) (shape : List PortOccupancy) (o : FrameOcc) : List (Nat × Bytes) :=
  (if fs then [(EV_FRAME_START, encPlain v Start.readPush o.id o.start)] else []) ++
  charEvents false v o.id (slotList shape 0) (presentFrom 0 o.chars) ++
  (if fe then o.items.map fun r => (EV_ITEM, encPlain v Item.readPush o.id r) else []) ++
  charEvents true v o.id (slotList shape 0) (presentFrom 0 o.chars) ++
  (if fe then [(EV_FRAME_END, encPlain v End.readPush o.id o.fend)] else [])

theorem frameEventsIf_A (v : Ver) (shape : List PortOccupancy) : frameEventsIf true true v shape = frameEventsA v shape := rfl
theorem frameEventsIf_B (v : Ver) (shape : List PortOccupancy) : frameEventsIf true false v shape = frameEventsB v shape := by
  funext o; simp [frameEventsIf, frameEventsB]
theorem frameEventsIf_C (v : Ver) (shape : List PortOccupancy) : frameEventsIf false false v shape = frameEventsC v shape := by
  funext o; simp [frameEventsIf, frameEventsC]

theorem canonEventsAny_eq (v : Ver) (shape : List PortOccupancy) (h : List FrameOcc) :
    canonEventsAny v shape h = h.flatMap (frameEventsIf (v.gte 2 2) (v.gte 3 0) v shape) := by
  unfold canonEventsAny
  cases h30 : v.gte 3 0
  · cases h22 : v.gte 2 2 <;> simp [frameEventsIf_B, frameEventsIf_C]
  · rw [Ver.gte_22_of_30 h30, frameEventsIf_A, if_pos rfl]

/-- in the order of `payload_sizes` (`generalizing := false`: a plain `match` on `gk`, `hg` stays out of it) -/
theorem canonTableAny_flat (v : Ver) (sl el : Nat) (gk : Option GeckoBlocks) (hg : ∀ g, gk = some g → v.gte 3 0 = true) :
    canonTableAny v sl el gk =
      [(EV_GAME_START, sl), (EV_FRAME_PRE, 6 + rowSize v Pre.readPush), (EV_FRAME_POST, 6 + rowSize v Post.readPush),
        (EV_GAME_END, el)] ++
      (if v.gte 2 2 then [(EV_FRAME_START, 4 + rowSize v Start.readPush)] else []) ++
      (if v.gte 3 0 then [(EV_ITEM, 4 + rowSize v Item.readPush), (EV_FRAME_END, 4 + rowSize v End.readPush)] else []) ++
      (match (generalizing := false) gk with | some g => [(EV_GECKO, g.total % 65536), (EV_SPLITTER, 516)] | none => []) := by
  cases gk with
  | some g => simp [canonTableAny, canonTableG, canonTable, hg g rfl, Ver.gte_22_of_30 (hg g rfl)]
  | none =>
    cases h30 : v.gte 3 0
    · cases h22 : v.gte 2 2 <;> simp [canonTableAny, canonTableB, canonTableC, h30, h22]
    · simp [canonTableAny, canonTable, h30, Ver.gte_22_of_30 h30]

theorem frameEventsIf_declared (fs fe : Bool) (ho : o.OK v (nSlots shape))
    (hpre : (EV_FRAME_PRE, 6 + rowSize v Pre.readPush) ∈ t) (hpost : (EV_FRAME_POST, 6 + rowSize v Post.readPush) ∈ t)
    (hstart : fs = true → (EV_FRAME_START, 4 + rowSize v Start.readPush) ∈ t)
    (hitem : fe = true → (EV_ITEM, 4 + rowSize v Item.readPush) ∈ t)
    (hend : fe = true → (EV_FRAME_END, 4 + rowSize v End.readPush) ∈ t) :
    ∀ e ∈ frameEventsIf fs fe v shape o, isFrameEv e.1 = true ∧ (e.1, e.2.length) ∈ t := by
  intro e he
  simp only [frameEventsIf, List.mem_append, List.mem_ite_nil_right, List.mem_singleton, List.mem_map] at he
  rcases he with (((⟨hfs, rfl⟩ | he) | ⟨hfe, r, hr, rfl⟩) | he) | ⟨hfe, rfl⟩
  · exact plain_declared EV_FRAME_START _ ho.start rfl (hstart hfs)
  · exact charEvents_declared ho hpre hpost false e he
  · exact plain_declared EV_ITEM _ (ho.items r hr) rfl (hitem hfe)
  · exact charEvents_declared ho hpre hpost true e he
  · exact plain_declared EV_FRAME_END _ ho.fend rfl (hend hfe)

theorem bev_declared (id : Int) {b : BEv} (hb : b.OK v (nSlots shape))
    (hpre : (EV_FRAME_PRE, 6 + rowSize v Pre.readPush) ∈ t) (hpost : (EV_FRAME_POST, 6 + rowSize v Post.readPush) ∈ t)
    (hitem : (EV_ITEM, 4 + rowSize v Item.readPush) ∈ t) :
    isFrameEv (b.enc v id (slotList shape 0)).1 = true ∧
      ((b.enc v id (slotList shape 0)).1, (b.enc v id (slotList shape 0)).2.length) ∈ t := by
  cases b with
  | pre c r | post c r =>
    obtain ⟨d, hd⟩ : ∃ d, (slotList shape 0)[c]? = some d := ⟨_, List.getElem?_eq_getElem hb.1⟩
    simp only [BEv.enc, hd, encChar_length _ _ _ _ _ _ hb.2]
    exact ⟨rfl, by assumption⟩
  | item r =>
    simp only [BEv.enc, encPlain_length _ _ _ _ hb]
    exact ⟨rfl, hitem⟩

theorem frameEventsP_declared (ho : o.OK v (nSlots shape)) {body : List BEv} (hbody : ∀ b ∈ body, b.OK v (nSlots shape))
    (hpre : (EV_FRAME_PRE, 6 + rowSize v Pre.readPush) ∈ t) (hpost : (EV_FRAME_POST, 6 + rowSize v Post.readPush) ∈ t)
    (hstart : (EV_FRAME_START, 4 + rowSize v Start.readPush) ∈ t) (hitem : (EV_ITEM, 4 + rowSize v Item.readPush) ∈ t)
    (hend : (EV_FRAME_END, 4 + rowSize v End.readPush) ∈ t) :
    ∀ e ∈ frameEventsP v shape o body, isFrameEv e.1 = true ∧ (e.1, e.2.length) ∈ t := by
  intro e he
  simp only [frameEventsP, List.mem_append, List.mem_cons, List.not_mem_nil, or_false, List.mem_map] at he
  rcases he with (rfl | ⟨b, hb, rfl⟩) | rfl
  · exact plain_declared EV_FRAME_START _ ho.start rfl hstart
  · exact bev_declared _ (hbody b hb) hpre hpost hitem
  · exact plain_declared EV_FRAME_END _ ho.fend rfl hend

omit t in
theorem frameEventsA_canon (ho : o.OK v (nSlots shape)) (sl el : Nat) :
    ∀ e ∈ frameEventsA v shape o, isFrameEv e.1 = true ∧ (e.1, e.2.length) ∈ canonTable v sl el :=
  frameEventsIf_declared true true ho (hpre := by simp [canonTable]) (hpost := by simp [canonTable])
    (hstart := fun _ => by simp [canonTable]) (hitem := fun _ => by simp [canonTable]) (hend := fun _ => by simp [canonTable])

omit t in
theorem frameEventsA_sizes (v : Ver) (shape : List PortOccupancy) (o : FrameOcc) (ho : o.OK v (nSlots shape)) (sl el : Nat) :
    ∀ e ∈ frameEventsA v shape o, e.1 < 256 ∧ e.1 ≠ EV_SPLITTER ∧ e.1 ≠ EV_GAME_END ∧
      sizeOfEv (canonTable v sl el).reverse e.1 = some e.2.length := by
  intro e he
  obtain ⟨hc, hm⟩ := frameEventsA_canon ho sl el e he
  obtain ⟨a1, a2, a3, _⟩ := isFrameEv_plain hc
  exact ⟨a1, a2, a3, sizeOfEv_reverse _ (canonTable_nodup v sl el) _ _ hm⟩

theorem canonTableB_sublist (v : Ver) (sl el : Nat) : (canonTableB v sl el).Sublist (canonTable v sl el) := List.take_sublist 5 (canonTable v sl el)
theorem canonTableC_sublist (v : Ver) (sl el : Nat) : (canonTableC v sl el).Sublist (canonTable v sl el) := List.take_sublist 4 (canonTable v sl el)

theorem canonTableB_ok (v : Ver) (sl el : Nat) (hs : 0 < sl ∧ sl < 65536) (he : 0 < el ∧ el < 65536) : TableOK (canonTableB v sl el) :=
  fun e h => canonTable_ok v sl el hs he (rows_bounded v) e ((canonTableB_sublist v sl el).subset h)

theorem canonTableB_nodup (v : Ver) (sl el : Nat) : ((canonTableB v sl el).map Prod.fst).Nodup :=
  (canonTable_nodup v sl el).sublist ((canonTableB_sublist v sl el).map _)

theorem canonTableC_ok (v : Ver) (sl el : Nat) (hs : 0 < sl ∧ sl < 65536) (he : 0 < el ∧ el < 65536) : TableOK (canonTableC v sl el) :=
  fun e h => canonTable_ok v sl el hs he (rows_bounded v) e ((canonTableC_sublist v sl el).subset h)

theorem canonTableC_nodup (v : Ver) (sl el : Nat) : ((canonTableC v sl el).map Prod.fst).Nodup :=
  (canonTable_nodup v sl el).sublist ((canonTableC_sublist v sl el).map _)

theorem canonTableG_ok (v : Ver) (sl el total : Nat) (hs : 0 < sl ∧ sl < 65536) (he : 0 < el ∧ el < 65536) (ht : 0 < total % 65536) :
    TableOK (canonTableG v sl el total) := by
  intro e he'
  simp only [canonTableG, List.mem_append, List.mem_cons, List.not_mem_nil, or_false] at he'
  rcases he' with h | rfl | rfl
  · exact canonTable_ok v sl el hs he (rows_bounded v) e h
  · simp only [EV_GECKO]; omega
  · simp only [EV_SPLITTER]; omega

theorem canonTableG_nodup (v : Ver) (sl el total : Nat) : ((canonTableG v sl el total).map Prod.fst).Nodup := by
  simp only [canonTableG, canonTable, List.map_cons, List.map_nil, List.cons_append, List.nil_append]; decide

theorem canonTableAny_cases {P : List (Nat × Nat) → Prop} (v : Ver) (sl el : Nat) (gk : Option GeckoBlocks)
    (hA : P (canonTable v sl el)) (hB : P (canonTableB v sl el)) (hC : P (canonTableC v sl el))
    (hG : ∀ g, gk = some g → P (canonTableG v sl el g.total)) : P (canonTableAny v sl el gk) := by
  cases gk with
  | some g => exact hG g rfl
  | none =>
    simp only [canonTableAny]
    split
    · exact hA
    · split
      · exact hB
      · exact hC

theorem canonTableAny_nodup (v : Ver) (sl el : Nat) (gk : Option GeckoBlocks) : ((canonTableAny v sl el gk).map Prod.fst).Nodup :=
  canonTableAny_cases (P := fun t => (t.map Prod.fst).Nodup) v sl el gk (canonTable_nodup v sl el) (canonTableB_nodup v sl el) (canonTableC_nodup v sl el)
    fun g _ => canonTableG_nodup v sl el g.total

theorem canonTableAny_start (v : Ver) (sl el : Nat) (gk : Option GeckoBlocks) : (EV_GAME_START, sl) ∈ canonTableAny v sl el gk :=
  canonTableAny_cases (P := fun t => (EV_GAME_START, sl) ∈ t) v sl el gk (by simp [canonTable]) (by simp [canonTableB]) (by simp [canonTableC])
    fun g _ => by simp [canonTableG, canonTable]

theorem canonTableAny_end (v : Ver) (sl el : Nat) (gk : Option GeckoBlocks) : (EV_GAME_END, el) ∈ canonTableAny v sl el gk :=
  canonTableAny_cases (P := fun t => (EV_GAME_END, el) ∈ t) v sl el gk (by simp [canonTable]) (by simp [canonTableB]) (by simp [canonTableC])
    fun g _ => by simp [canonTableG, canonTable]

theorem canonTable_sub_any (v : Ver) (sl el : Nat) (gk : Option GeckoBlocks) (h30 : v.gte 3 0 = true) :
    ∀ x ∈ canonTable v sl el, x ∈ canonTableAny v sl el gk := by
  intro x hx
  cases gk with
  | some g => exact List.mem_append_left _ hx
  | none => simpa [canonTableAny, h30] using hx

theorem canonTableAny_ok {T : TextOracle} {r : Replay} {s : Start} {gk : Option GeckoBlocks} (h : r.WFAny T s gk) :
    TableOK (canonTableAny s.version r.startBlock.length (r.endLen s.version) gk) := by
  refine canonTableAny_cases (P := TableOK) _ _ _ gk (canonTable_ok _ _ _ h.startLen h.endLenOK (rows_bounded _))
    (canonTableB_ok _ _ _ h.startLen h.endLenOK) (canonTableC_ok _ _ _ h.startLen h.endLenOK) fun g hg => ?_
  obtain ⟨_, _, _, htotal, _⟩ := h.gecko g hg
  exact canonTableG_ok _ _ _ _ h.startLen h.endLenOK htotal

/-- seven entries, and two more with a Gecko block -/
theorem canonTableAny_length (v : Ver) (sl el : Nat) (gk : Option GeckoBlocks) : (canonTableAny v sl el gk).length ≤ 9 :=
  canonTableAny_cases (P := fun t => t.length ≤ 9) v sl el gk (by simp [canonTable]) (by simp [canonTableB]) (by simp [canonTableC])
    fun g _ => by simp [canonTableG, canonTable]

theorem GeckoBlocks.enc_length (gk : GeckoBlocks) (hf : ∀ b ∈ gk.init, FullBlock b) (hl : LastBlock gk.last) :
    gk.enc.length = 517 * (gk.init.length + 1) := by
  simp only [GeckoBlocks.enc, List.length_append, encBlocks_length gk.init (fun b hb => (hf b hb).1), encEvent, List.length_cons,
    splitPayload_length gk.last.1 gk.last.2 true hl.1]
  omega

#print axioms frameEventsA_sizes
end Peppi
