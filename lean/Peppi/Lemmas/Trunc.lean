import Peppi.Lemmas.Fuel
/-! C07 (.slp half): a well-formed file cut at any byte is rejected, because the reader is local (`Rd.Local`).  Most of the
    file is locality of the loop, the tail and `readP`; the `skip_frames` jump, not local by itself, is compared with an
    exact-length read (`skipTake`). -/
namespace Peppi
open Extracted

theorem local_evL : ∀ (fuel rawLen : Nat) (ps : ParseState), Rd.Local (evL fuel rawLen ps) := by
  intro fuel
  induction fuel with
  | zero => exact fun _ _ _ _ _ h => (by cases h)
  | succ n ih =>
    intro rawLen ps
    rw [evL_succ]
    apply Rd.local_ite
    · apply Rd.local_bind _ _ (local_parseEvent ps); intro r
      apply Rd.local_ite
      · exact Rd.local_pure _
      · exact ih rawLen r.2
    · exact Rd.local_pure _

theorem local_loop (rawLen : Nat) (ps : ParseState) :
    Rd.Local (fun bs => eventLoop (bs.length + 1) rawLen ps bs : Rd ParseState) :=
  local_of_fuel (fun f => evL f rawLen ps) (fun f => local_evL f rawLen ps)
    (fun f1 f2 bs h1 h2 => eventLoop_fuel f1 f2 rawLen ps bs h1 h2) (fun bs => bs.length + 1) (fun _ => Nat.lt_succ_self _)

theorem local_parseMetadata (utf8 st) : Rd.Local (parseMetadata utf8 st) := by
  unfold parseMetadata
  apply Rd.local_bind _ _ (local_expectBytes _); intro _
  apply Rd.local_bind _ _ (local_readMap utf8); intro _
  exact Rd.local_pure _

theorem local_readTail (T rawLen ps) : Rd.Local (readTail T rawLen ps) := by
  unfold readTail
  dsimp only
  apply Rd.local_bind
  · apply Rd.local_ite
    · apply Rd.local_bind _ _ (Rd.local_take _); intro _
      apply Rd.local_ite <;> exact Rd.local_pure _
    · exact Rd.local_pure _
  intro st
  apply Rd.local_bind _ _ Rd.local_u8; intro b
  apply Rd.local_bind
  · apply Rd.local_ite
    · apply Rd.local_bind _ _ (local_parseMetadata _ _); intro _
      apply Rd.local_bind _ _ (local_expectBytes _); intro _
      exact Rd.local_pure _
    apply Rd.local_ite
    · exact Rd.local_pure _
    · exact Rd.local_fail _
  intro _
  exact Rd.local_pure _

theorem local_loopTail (T rawLen ps) : Rd.Local (loopTail T rawLen ps) := by
  unfold loopTail
  exact Rd.local_bind _ _ (local_loop rawLen ps) (fun _ => local_readTail _ _ _)

theorem local_readP (T : TextOracle) (hash : Bool) : Rd.Local (readP T { skipFrames := false, computeHash := hash }) := by
  unfold readP
  apply Rd.local_bind _ _ local_parseHeader; intro rawLen
  apply Rd.local_bind _ _ (local_parseStart T); intro ps
  simp only [Bool.false_eq_true, ↓reduceIte]
  apply Rd.local_bind _ _ (Rd.local_pure _); intro ps'
  exact local_loopTail _ _ _

theorem readP_hash (T : TextOracle) (skip h1 h2 : Bool) :
    readP T { skipFrames := skip, computeHash := h1 } = readP T { skipFrames := skip, computeHash := h2 } := rfl

/-! the skip-frames jump: `seek` / `copy(take)` do not fail on a short file, the next mandatory read does -/

/-- the jump, had it been an exact-length read -/
def skipTake (rawLen : Nat) (ps : ParseState) : Rd ParseState :=
  let endOffset := 1 + (sizeOfEv ps.st.sizes EV_GAME_END).getD 0
  if rawLen = 0 ∨ rawLen < ps.bytesRead ∨ rawLen - ps.bytesRead < endOffset then Rd.fail "Cannot skip to game end"
  else Rd.take (rawLen - ps.bytesRead - endOffset) >>= fun _ => pure { ps with bytesRead := ps.bytesRead + (rawLen - ps.bytesRead - endOffset) }

def skipLen (rawLen : Nat) (ps : ParseState) : Nat := rawLen - ps.bytesRead - (1 + (sizeOfEv ps.st.sizes EV_GAME_END).getD 0)

/-- the jump either refuses, or skips `skipLen` bytes (by `drop`; `skipTake` by `Rd.take`) and lands inside the raw element -/
theorem skip_cases (rawLen : Nat) (ps : ParseState) :
    (skipToEnd rawLen ps = Rd.fail "Cannot skip to game end" ∧ skipTake rawLen ps = Rd.fail "Cannot skip to game end") ∨
    (skipToEnd rawLen ps = (fun bs => .ok ({ ps with bytesRead := ps.bytesRead + skipLen rawLen ps }, bs.drop (skipLen rawLen ps))) ∧
      skipTake rawLen ps = (Rd.take (skipLen rawLen ps) >>= fun _ => pure { ps with bytesRead := ps.bytesRead + skipLen rawLen ps }) ∧
      ps.bytesRead + skipLen rawLen ps < rawLen) := by
  unfold skipToEnd skipTake skipLen
  by_cases hc : rawLen = 0 ∨ rawLen < ps.bytesRead ∨ rawLen - ps.bytesRead < 1 + (sizeOfEv ps.st.sizes EV_GAME_END).getD 0
  · exact .inl ⟨if_pos hc, if_pos hc⟩
  · exact .inr ⟨if_neg hc, if_neg hc, by omega⟩

theorem skip_long (T rawLen ps) (bs : Bytes) (h : skipLen rawLen ps ≤ bs.length) :
    (skipToEnd rawLen ps >>= loopTail T rawLen) bs = (skipTake rawLen ps >>= loopTail T rawLen) bs := by
  rcases skip_cases rawLen ps with ⟨e1, e2⟩ | ⟨e1, e2, _⟩
  · rw [e1, e2]
  · rw [e1, e2]
    simp only [bind, Rd.take, Nat.not_lt.2 h, ↓reduceIte, pure]

theorem skip_short (T rawLen ps) (bs : Bytes) (h : bs.length < skipLen rawLen ps) :
    ∃ e, (skipToEnd rawLen ps >>= loopTail T rawLen) bs = .err e := by
  rcases skip_cases rawLen ps with ⟨e1, _⟩ | ⟨e1, _, hlt⟩
  · exact ⟨_, by rw [e1]; rfl⟩
  · -- the jump went past the end: the first `parse_event` of the loop finds no command byte
    refine ⟨"eof", ?_⟩
    rw [e1]
    simp only [bind, List.drop_eq_nil_of_le (Nat.le_of_lt h), loopTail, List.length_nil, Nat.zero_add]
    rw [eventLoop, if_pos (.inr hlt)]
    rfl

theorem local_skipTake_tail (T rawLen ps) : Rd.Local (skipTake rawLen ps >>= loopTail T rawLen) := by
  refine Rd.local_bind _ _ ?_ fun _ => local_loopTail _ _ _
  rcases skip_cases rawLen ps with ⟨_, e2⟩ | ⟨_, e2, _⟩ <;> rw [e2]
  · exact Rd.local_fail _
  · exact Rd.local_bind _ _ (Rd.local_take _) fun _ => Rd.local_pure _

theorem skipTake_used (T rawLen ps) (bs : Bytes) (x) (h : (skipTake rawLen ps >>= loopTail T rawLen) bs = .ok x) :
    skipLen rawLen ps ≤ bs.length := by
  rcases skip_cases rawLen ps with ⟨_, e2⟩ | ⟨_, e2, _⟩ <;> rw [e2] at h
  · cases h
  · refine Nat.le_of_not_lt fun hl => ?_
    simp [bind, Rd.take, hl] at h

theorem local_skip_tail (T rawLen ps) : Rd.Local (skipToEnd rawLen ps >>= loopTail T rawLen) := by
  intro bs a rest h
  have hlen : skipLen rawLen ps ≤ bs.length := by
    by_cases hl : skipLen rawLen ps ≤ bs.length
    · exact hl
    · obtain ⟨e, he⟩ := skip_short T rawLen ps bs (Nat.lt_of_not_le hl)
      rw [he] at h; cases h
  rw [skip_long T rawLen ps bs hlen] at h
  obtain ⟨used, hu, hext, hpre⟩ := local_skipTake_tail T rawLen ps bs a rest h
  have hused : skipLen rawLen ps ≤ used.length := by
    have := skipTake_used T rawLen ps (used ++ []) _ (hext [])
    simpa using this
  refine ⟨used, hu, ?_, ?_⟩
  · intro ext
    have hlong : skipLen rawLen ps ≤ (used ++ ext).length := by rw [List.length_append]; omega
    rw [skip_long T rawLen ps _ hlong]
    exact hext ext
  · intro pre hp hl
    by_cases hpl : skipLen rawLen ps ≤ pre.length
    · rw [skip_long T rawLen ps _ hpl]; exact hpre pre hp hl
    · exact skip_short T rawLen ps pre (Nat.lt_of_not_le hpl)

theorem local_readP_skip (T : TextOracle) (hash : Bool) : Rd.Local (readP T { skipFrames := true, computeHash := hash }) := by
  unfold readP
  apply Rd.local_bind _ _ local_parseHeader; intro rawLen
  apply Rd.local_bind _ _ (local_parseStart T); intro ps
  simp only [↓reduceIte]
  exact local_skip_tail T rawLen ps

theorem local_readP_any (T : TextOracle) : ∀ opts : Opts, Rd.Local (readP T opts)
  | ⟨false, hash⟩ => local_readP T hash
  | ⟨true, hash⟩ => local_readP_skip T hash

/-- **C07, `.slp`, general form**: whatever the options, if the reader accepts an input and consumes all of it,
    it rejects every proper prefix of that input with an error -/
theorem C07_slp_general (T : TextOracle) (opts : Opts) (x : Bytes) (g : Game) (h : readP T opts x = .ok (g, []))
    (n : Nat) (hn : n < x.length) : ∃ e, readSlp T opts (x.take n) = .err e := by
  obtain ⟨e, he⟩ := Rd.trunc_of_local _ (local_readP_any T opts) x g h n hn
  exact ⟨e, by unfold readSlp; rw [he]⟩

#print axioms C07_slp_general
end Peppi
