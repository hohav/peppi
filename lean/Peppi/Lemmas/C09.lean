import Peppi.Write
import Peppi.VersionProof
/-! C09 (.slp writer): a game whose version exceeds the maximum is refused before anything else is computed. -/
namespace Peppi

def Ver.above (v : Ver) : Prop := ¬ (v.major < 3 ∨ (v.major = 3 ∧ (v.minor < 16 ∨ (v.minor = 16 ∧ v.patch = 0))))

theorem assertMaxVersion_above {v : Ver} (h : v.above) : assertMaxVersion v = .err "unsupported version" := by
  rcases assertMaxVersion_cases v with ⟨_, hok⟩ | ⟨_, herr⟩
  · exact absurd ((assertMaxVersion_iff v).mp hok) h
  · exact herr

/-- **C09 (`.slp`)**: above 3.16.0 (lexicographically on the triple) the writer returns the unsupported-version error,
    whatever the rest of the game looks like -/
theorem C09_slp_refuse (g : Game) (h : g.start.version.above) : writeSlp g = .err "unsupported version" := by
  unfold writeSlp
  simp only [bind, assertMaxVersion_above h]

/-- at or below the maximum the guard lets the game through (what happens next is C01/C17) -/
theorem C09_guard_passes (g : Game) (h : ¬ g.start.version.above) : assertMaxVersion g.start.version = .ok () :=
  (assertMaxVersion_iff _).mpr (Classical.not_not.mp h)

#print axioms C09_slp_refuse
end Peppi
