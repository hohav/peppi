import Peppi.Lemmas.FrameStep
import Peppi.Lemmas.C12Cols
/-! C13: the per-frame row view of the columns a well-formed history produces is that history's frame
    (frame id, start, every character's pre/post or absence, the item list delimited by the offsets, end). -/
namespace Peppi
open Extracted

/-- `Data::transpose_one(i)` guarded by the validity bitmap: a character's row at frame `i`, `none` when absent (a null row
    under a set bit, which the reader never builds, also reads as absent) -/
def DCols.rowView (d : DCols) (i : Nat) : Option (Option CharOcc) :=
  match d.pre[i]?, d.post[i]? with
  | some p, some q =>
    let valid := match d.valid with | none => true | some bs => bs.getD i true
    if valid then (match p, q with | some pr, some po => some (some ⟨pr, po⟩) | _, _ => some none) else some none
  | _, _ => none

/-- items of frame `i`: the slice `[off[i], off[i+1])` of the item column -/
def itemsView (offs : List Nat) (items : SCols) (i : Nat) : Option SCols :=
  match offs[i]?, offs[i+1]? with
  | some a, some b => some ((items.drop a).take (b - a))
  | _, _ => none

/-- the row view, with the validity read off the semantic list -/
def rowOf (p q : Option (Option Row)) (valid : Bool) : Option (Option CharOcc) :=
  match p, q with
  | some p, some q => if valid then (match p, q with | some pr, some po => some (some ⟨pr, po⟩) | _, _ => some none) else some none
  | _, _ => none

theorem DCols.rowView_eq (d : DCols) (i : Nat) : d.rowView i = rowOf d.pre[i]? d.post[i]? (d.vlist.getD i true) := by
  -- the validity the row view looks at is the semantic list: without a bitmap it is all `true`, in range or not
  have : (match d.valid with | none => true | some bs => bs.getD i true) = d.vlist.getD i true := by
    unfold DCols.vlist
    cases d.valid with
    | none => by_cases h : i < d.pre.length <;> simp [h]
    | some bs => rfl
  unfold DCols.rowView rowOf
  rw [← this]

/-- lazy validity has one meaning: read with "no bitmap = all set", it says in which frames the character was present -/
theorem vlist_colsOf (hist : List (Option CharOcc)) : (colsOf hist).vlist = hist.map Option.isSome := by
  simp only [DCols.vlist, colsOf, validOf, List.length_map]
  split
  · next h => exact (map_isSome_of_all h).symm
  · rfl

/-- C13, one character -/
theorem colsOf_rowView (hist : List (Option CharOcc)) (i : Nat) (hi : i < hist.length) :
    (colsOf hist).rowView i = some hist[i] := by
  rw [DCols.rowView_eq, vlist_colsOf]
  simp only [colsOf, List.getElem?_map, List.getElem?_eq_getElem hi, Option.map_some, List.getD_eq_getElem?_getD, Option.getD_some]
  cases hist[i] <;> rfl

/-- C13, the items of a frame -/
theorem items_slice (h : List FrameOcc) (idx : Nat) (hidx : idx < h.length) :
    itemsView (offsOf h) ((h.flatMap (·.items)).map some) idx = some ((h[idx]).items.map some) := by
  unfold itemsView
  rw [offsOf_get h idx (Nat.le_of_lt hidx), offsOf_get h (idx+1) hidx, itemsBefore_succ h idx hidx]
  simp only [Nat.add_sub_cancel_left, Option.some.injEq]
  rw [items_split h idx hidx]
  simp only [List.map_append, itemsBefore]
  rw [List.drop_left' (by simp), List.take_left' (by simp)]

/-- **C13 on the expected columns**, for every version: each clause needs only its own gate -/
theorem C13_expFrames_any (v : Ver) (shape : List PortOccupancy) (h : List FrameOcc) (i : Nat) (hi : i < h.length) :
    let F := expFrames v shape h
    F.id[i]? = some (h[i]).id ∧
    (v.gte 2 2 = true → (F.start.bind (·[i]?)) = some (some (h[i]).start)) ∧
    (v.gte 3 0 = true → (F.fend.bind (·[i]?)) = some (some (h[i]).fend)) ∧
    (∀ c, c < nSlots shape → ((flatSlots F.ports)[c]?).bind (·.rowView i) = some ((h[i]).chars[c]?).join) ∧
    (v.gte 3 0 = true →
      (match F.itemOff, F.item with | some offs, some it => itemsView offs it i | _, _ => none) = some ((h[i]).items.map some)) := by
  intro F
  have hmap : ∀ {β} (g : FrameOcc → β), (h.map g)[i]? = some (g h[i]) := fun g => by
    rw [List.getElem?_map, List.getElem?_eq_getElem hi]; rfl
  refine ⟨hmap _, fun h22 => ?_, fun h30 => ?_, ?_, fun h30 => ?_⟩
  · show (expFrames v shape h).start.bind _ = _
    rw [expFrames_start shape h h22]; exact hmap _
  · show (expFrames v shape h).fend.bind _ = _
    rw [expFrames_fend shape h h30]; exact hmap _
  · intro c hc
    have hic : i < (histAt h c).length := (List.length_map _).symm ▸ hi
    show ((flatSlots (expPorts shape h))[c]?).bind (·.rowView i) = _
    rw [(expPorts_shape shape h).2, expFlat, List.getElem?_map, List.getElem?_range hc]
    exact (colsOf_rowView (histAt h c) i hic).trans (congrArg some (List.getElem_map _))
  · simp only [F, expFrames_itemOff shape h h30, expFrames_item shape h h30]
    exact items_slice h i hi

/-- **C13 on the expected columns** (≥ 3.0 shown; the gated fields are `none` below their version by `expFrames`) -/
theorem C13_expFrames (v : Ver) (shape : List PortOccupancy) (h : List FrameOcc) (h30 : v.gte 3 0 = true) (h22 : v.gte 2 2 = true)
    (i : Nat) (hi : i < h.length) :
    let F := expFrames v shape h
    F.id[i]? = some (h[i]).id ∧
    (F.start.bind (·[i]?)) = some (some (h[i]).start) ∧
    (F.fend.bind (·[i]?)) = some (some (h[i]).fend) ∧
    (∀ c, c < nSlots shape → ((flatSlots F.ports)[c]?).bind (·.rowView i) = some ((h[i]).chars[c]?).join) ∧
    (match F.itemOff, F.item with | some offs, some it => itemsView offs it i | _, _ => none) = some ((h[i]).items.map some) := by
  obtain ⟨a, b, c, d, e⟩ := C13_expFrames_any v shape h i hi
  exact ⟨a, b h22, c h30, d, e h30⟩

#print axioms C13_expFrames
end Peppi
