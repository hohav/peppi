import Peppi.Lemmas.C12
import Peppi.Lemmas.NoPanic
/-! C12, accounting at the start of the stream, for **every** input: whatever the payload-size table looks like (entries in any
    order, a code listed twice, codes the library does not know), it is counted by its own length byte, not by what it lists. -/
namespace Peppi
open Extracted

theorem parsePayloads_count (bs : Bytes) (br : Nat) (sizes : List (Nat × Nat)) (rest : Bytes)
    (h : parsePayloads bs = .ok ((br, sizes), rest)) : br + rest.length = bs.length :=
  Rd.wp_elim (parsePayloads_spec bs) h

theorem parseGameStart_count (T : TextOracle) (sizes : List (Nat × Nat)) (br : Nat) (bs : Bytes) (br' : Nat) (s : Start) (rest : Bytes)
    (h : parseGameStart T sizes br bs = .ok ((br', s), rest)) : br' + rest.length = br + bs.length :=
  Rd.wp_elim (parseGameStart_spec T sizes br bs) h

/-- **C12 (accounting, start of the stream)**: after `parse_start`, `bytes_read` is exactly the number of bytes taken from the
    stream — the whole of the Event Payloads event and of the Game Start event -/
theorem parseStart_count (T : TextOracle) (bs : Bytes) (ps : ParseState) (rest : Bytes)
    (h : parseStart T bs = .ok (ps, rest)) : ps.bytesRead + rest.length = bs.length := by
  obtain ⟨_, hcount⟩ := Rd.wp_elim (parseStart_spec T bs) h
  exact hcount

/-- … and so the counter equals the bytes consumed after any number of event calls that follow (with `parseEvent_count`) -/
theorem parseStart_then_event_count (T : TextOracle) (bs : Bytes) (ps : ParseState) (r1 : Bytes) (code : Nat) (ps' : ParseState) (r2 : Bytes)
    (h1 : parseStart T bs = .ok (ps, r1)) (h2 : parseEvent ps r1 = .ok ((code, ps'), r2)) : ps'.bytesRead + r2.length = bs.length := by
  have a := parseStart_count T bs ps r1 h1
  have b := parseEvent_count ps r1 code ps' r2 h2
  omega

/-- a table that lists a code twice (`0x37` with sizes 9 and 63): accepted, the later entry is found first, and the counter covers all
    of the table's bytes -/
example : parsePayloads ([0x35, 13, 0x36, 0, 5, 0x37, 0, 9, 0x39, 0, 1, 0x37, 0, 63] ++ [0xAA]) =
    .ok ((14, [(0x37, 63), (0x39, 1), (0x37, 9), (0x36, 5)]), [0xAA]) := by decide

#print axioms parseStart_count
end Peppi
