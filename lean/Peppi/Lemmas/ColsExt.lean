import Peppi.Read
/-! The prefix order on the columns of the in-progress frame set: `a.Ext b` when every column of `b` is the column of `a`
    with rows appended — ids, per-character pre/post rows, the semantic validity list (a bitmap that does not exist yet
    means "all present"), Frame Start / Frame End rows, item rows and item offsets — and the mutations that respect it. -/
namespace Peppi
open Extracted

/-- the validity of a character as a list: no bitmap = every row present -/
def DCols.vlist (d : DCols) : List Bool := d.valid.getD (List.replicate d.pre.length true)

def DCols.Ext (a b : DCols) : Prop := a.pre <+: b.pre ∧ a.post <+: b.post ∧ a.vlist <+: b.vlist

def OptExt {α} (R : α → α → Prop) : Option α → Option α → Prop
  | none, none => True
  | some a, some b => R a b
  | _, _ => False

def PCols.Ext (a b : PCols) : Prop := a.port = b.port ∧ a.leader.Ext b.leader ∧ OptExt DCols.Ext a.follower b.follower

def PortsExt : List PCols → List PCols → Prop
  | [], [] => True
  | a :: as, b :: bs => a.Ext b ∧ PortsExt as bs
  | _, _ => False

def FCols.Ext (a b : FCols) : Prop :=
  a.id <+: b.id ∧ PortsExt a.ports b.ports ∧ OptExt List.IsPrefix a.start b.start ∧ OptExt List.IsPrefix a.fend b.fend ∧
  OptExt List.IsPrefix a.itemOff b.itemOff ∧ OptExt List.IsPrefix a.item b.item

theorem optExt_refl {α} {R : α → α → Prop} (hr : ∀ a, R a a) : ∀ o : Option α, OptExt R o o
  | none => trivial
  | some a => hr a

theorem optExt_trans {α} {R : α → α → Prop} (ht : ∀ a b c, R a b → R b c → R a c) :
    ∀ o p q : Option α, OptExt R o p → OptExt R p q → OptExt R o q
  | none, none, none, _, _ => trivial
  | some a, some b, some c, h1, h2 => ht a b c h1 h2
  | none, none, some _, _, h2 => h2.elim
  | none, some _, _, h1, _ => h1.elim
  | some _, none, _, h1, _ => h1.elim
  | some _, some _, none, _, h2 => h2.elim

theorem optPrefix_refl {α} (o : Option (List α)) : OptExt List.IsPrefix o o := optExt_refl List.prefix_refl o

theorem optPrefix_trans {α} {o p q : Option (List α)} : OptExt List.IsPrefix o p → OptExt List.IsPrefix p q → OptExt List.IsPrefix o q :=
  optExt_trans (R := List.IsPrefix) (fun _ _ _ => List.IsPrefix.trans) o p q

theorem DCols.ext_refl (d : DCols) : d.Ext d := ⟨List.prefix_refl _, List.prefix_refl _, List.prefix_refl _⟩
theorem DCols.ext_trans (a b c : DCols) (h1 : a.Ext b) (h2 : b.Ext c) : a.Ext c :=
  ⟨h1.1.trans h2.1, h1.2.1.trans h2.2.1, h1.2.2.trans h2.2.2⟩

theorem PCols.ext_refl (p : PCols) : p.Ext p := ⟨rfl, DCols.ext_refl _, optExt_refl DCols.ext_refl _⟩
theorem PCols.ext_trans (a b c : PCols) (h1 : a.Ext b) (h2 : b.Ext c) : a.Ext c :=
  ⟨h1.1.trans h2.1, DCols.ext_trans _ _ _ h1.2.1 h2.2.1, optExt_trans DCols.ext_trans _ _ _ h1.2.2 h2.2.2⟩

theorem portsExt_refl : ∀ l : List PCols, PortsExt l l
  | [] => trivial
  | p :: ps => ⟨PCols.ext_refl p, portsExt_refl ps⟩

theorem portsExt_trans : ∀ a b c : List PCols, PortsExt a b → PortsExt b c → PortsExt a c
  | [], [], [], _, _ => trivial
  | x :: xs, y :: ys, z :: zs, h1, h2 => ⟨PCols.ext_trans x y z h1.1 h2.1, portsExt_trans xs ys zs h1.2 h2.2⟩
  | [], [], _ :: _, _, h2 => h2.elim
  | [], _ :: _, _, h1, _ => h1.elim
  | _ :: _, [], _, h1, _ => h1.elim
  | _ :: _, _ :: _, [], _, h2 => h2.elim

theorem FCols.ext_of_ports (f : FCols) {P : List PCols} (h : PortsExt f.ports P) : f.Ext { f with ports := P } :=
  ⟨List.prefix_refl _, h, optPrefix_refl _, optPrefix_refl _, optPrefix_refl _, optPrefix_refl _⟩

theorem FCols.ext_refl (f : FCols) : f.Ext f := f.ext_of_ports (portsExt_refl _)

theorem FCols.ext_trans (a b c : FCols) (h1 : a.Ext b) (h2 : b.Ext c) : a.Ext c := by
  obtain ⟨i1, p1, s1, e1, o1, t1⟩ := h1
  obtain ⟨i2, p2, s2, e2, o2, t2⟩ := h2
  exact ⟨i1.trans i2, portsExt_trans _ _ _ p1 p2, optPrefix_trans s1 s2, optPrefix_trans e1 e2, optPrefix_trans o1 o2,
    optPrefix_trans t1 t2⟩

theorem prefix_getElem? {α} {a b : List α} (h : a <+: b) {i : Nat} (hi : i < a.length) : a[i]? = b[i]? :=
  (List.getElem?_eq_getElem hi).trans (List.prefix_iff_getElem?.mp h i hi).symm

theorem OptExt.of_some {α} {R : α → α → Prop} {x : α} {b : Option α} (h : OptExt R (some x) b) : ∃ y, b = some y ∧ R x y := by
  cases b with
  | none => exact h.elim
  | some y => exact ⟨y, rfl, h⟩

/-- a column that may not exist (Frame Start before 2.2, Frame End before 3.0): same row at a present index -/
theorem optCol_ext {α} (a b : Option (List α)) (h : OptExt List.IsPrefix a b) (i : Nat) (hi : ∀ l, a = some l → i < l.length) :
    a.bind (·[i]?) = b.bind (·[i]?) := by
  cases a with
  | none => cases b with
    | none => rfl
    | some _ => exact h.elim
  | some l =>
    obtain ⟨l', rfl, hl⟩ := OptExt.of_some h
    exact prefix_getElem? hl (hi l rfl)

theorem portsExt_get : ∀ (a b : List PCols), PortsExt a b → ∀ (k : Nat) (p : PCols), a[k]? = some p → ∃ q : PCols, b[k]? = some q ∧ p.Ext q
  | [], [], _, k, p, h => by simp at h
  | x :: xs, y :: ys, h, k, p, hp => by
    cases k with
    | zero =>
      simp only [List.getElem?_cons_zero, Option.some.injEq] at hp; subst hp
      exact ⟨y, rfl, h.1⟩
    | succ k =>
      simp only [List.getElem?_cons_succ] at hp ⊢
      exact portsExt_get xs ys h.2 k p hp
  | [], _ :: _, h, _, _, _ => h.elim
  | _ :: _, [], h, _, _, _ => h.elim

theorem DCols.ext_pushNull (d : DCols) : d.Ext d.pushNull := by
  refine ⟨List.prefix_append _ _, List.prefix_append _ _, ?_⟩
  simp only [DCols.vlist, DCols.pushNull, DCols.len, Option.getD_some]
  exact List.prefix_append _ _

theorem DCols.ext_pushPre (d : DCols) (r : Row) : d.Ext (d.pushPre r) := by
  refine ⟨List.prefix_append _ _, List.prefix_refl _, ?_⟩
  simp only [DCols.vlist, DCols.pushPre]
  cases d.valid with
  | none => simp only [Option.map_none, Option.getD_none, List.length_append, List.length_cons, List.length_nil]
            rw [List.replicate_succ']; exact List.prefix_append _ _
  | some bs => simp only [Option.map_some, Option.getD_some]; exact List.prefix_append _ _

theorem DCols.ext_pushPost (d : DCols) (r : Row) : d.Ext (d.pushPost r) :=
  ⟨List.prefix_refl _, List.prefix_append _ _, by simp [DCols.vlist, DCols.pushPost]⟩

theorem DCols.ext_padTo (d : DCols) (n : Nat) : d.Ext (d.padTo n) := by
  fun_induction DCols.padTo d n with
  | case1 d _ ih => exact DCols.ext_trans _ _ _ (DCols.ext_pushNull d) ih
  | case2 d _ => exact DCols.ext_refl d

theorem portsExt_close (n : Nat) : ∀ l : List PCols,
    PortsExt l (l.map fun p => { p with leader := p.leader.padTo n, follower := p.follower.map (·.padTo n) })
  | [] => trivial
  | p :: ps => by
    refine ⟨⟨rfl, DCols.ext_padTo _ _, ?_⟩, portsExt_close n ps⟩
    show OptExt DCols.Ext p.follower (p.follower.map (·.padTo n))
    cases p.follower with
    | none => trivial
    | some d => exact DCols.ext_padTo d n

theorem FCols.ext_close (f : FCols) : f.Ext f.close := f.ext_of_ports (portsExt_close _ _)

theorem portsExt_modify (fol : Bool) (g : DCols → DCols) (hg : ∀ d : DCols, d.Ext (g d)) :
    ∀ (l : List PCols) (pi : Nat), PortsExt l (l.modify pi (·.updSlot fol g))
  | [], _ => by simp only [List.modify_nil]; trivial
  | p :: ps, 0 => by
    simp only [List.modify_cons, ↓reduceIte]
    refine ⟨?_, portsExt_refl ps⟩
    unfold PCols.updSlot
    cases fol with
    | false => exact ⟨rfl, hg _, optExt_refl DCols.ext_refl _⟩
    | true =>
      refine ⟨rfl, DCols.ext_refl _, ?_⟩
      cases p.follower with
      | none => trivial
      | some d => exact hg d
  | p :: ps, pi + 1 => by
    simp only [List.modify_succ_cons]
    exact ⟨PCols.ext_refl p, portsExt_modify fol g hg ps pi⟩

theorem PState.ext_updSlot (st : PState) (pi : Nat) (fol : Bool) (g : DCols → DCols) (hg : ∀ d : DCols, d.Ext (g d)) :
    st.frames.Ext (st.updSlot pi fol g).frames :=
  st.frames.ext_of_ports (portsExt_modify fol g hg _ _)

/-- `FCols.Ext` on the states: the columns of the in-progress game only ever grow by appended rows -/
def ColsExtend (st st' : PState) : Prop := st.frames.Ext st'.frames

end Peppi
