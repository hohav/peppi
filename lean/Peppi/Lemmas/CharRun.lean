import Peppi.Lemmas.Events
/-! `runEvents`, the fold of `handleEvent` over a list of events, with the rule for folding it frame by frame
    (`runEvents_fold`), and the recorder's pre / post events for the present characters of a frame. -/
namespace Peppi
open Extracted

/-- the port-number → slot map built by `parse_start` agrees with the shape of `ports` -/
def PortMapOK (portIdx : List (Option Nat)) (shape : List PortOccupancy) : Prop :=
  ∀ pi (h : pi < shape.length), portIdx.getD (shape[pi]).port none = some pi

def runEvents : PState → List (Nat × Bytes) → Res PState
  | st, [] => .ok st
  | st, e :: es => match handleEvent st e.1 e.2 with
    | .ok st' => runEvents st' es
    | .err m => .err m
    | .panic m => .panic m

theorem runEvents_append (st : PState) (a b : List (Nat × Bytes)) :
    runEvents st (a ++ b) = match runEvents st a with | .ok st' => runEvents st' b | .err m => .err m | .panic m => .panic m := by
  induction a generalizing st with
  | nil => simp [runEvents]
  | cons e es ih =>
    simp only [List.cons_append, runEvents]
    cases handleEvent st e.1 e.2 with
    | ok st' => simpa using ih st'
    | err m => rfl
    | panic m => rfl

theorem runEvents_cons_inv {st st' : PState} {e : Nat × Bytes} {es : List (Nat × Bytes)} (h : runEvents st (e :: es) = .ok st') :
    ∃ s1, handleEvent st e.1 e.2 = .ok s1 ∧ runEvents s1 es = .ok st' := by
  rw [runEvents] at h
  cases hh : handleEvent st e.1 e.2 with
  | ok s1 => exact ⟨s1, rfl, by rwa [hh] at h⟩
  | err m => rw [hh] at h; cases h
  | panic m => rw [hh] at h; cases h

/-- the fold rule: `Inv` is indexed by the elements whose events have run; a step touches nothing but `frames` -/
theorem runEvents_fold {α} (st : PState) (ev : α → List (Nat × Bytes)) (Inv : List α → FCols → Prop) (l : List α)
    (step : ∀ pre a post f0, l = pre ++ a :: post → Inv pre f0 →
      ∃ f, runEvents { st with frames := f0 } (ev a) = .ok { st with frames := f } ∧ Inv (pre ++ [a]) f)
    (f0 : FCols) (h0 : Inv [] f0) :
    ∃ f, runEvents { st with frames := f0 } (l.flatMap ev) = .ok { st with frames := f } ∧ Inv l f := by
  induction l generalizing Inv f0 with
  | nil => exact ⟨f0, rfl, h0⟩
  | cons a t ih =>
    obtain ⟨f1, e1, h1⟩ := step [] a t f0 rfl h0
    obtain ⟨f2, e2, h2⟩ := ih (fun pre => Inv (a :: pre))
      (fun pre b post f hb hf => step (a :: pre) b post f (by rw [hb]; rfl) hf) f1 h1
    exact ⟨f2, by rw [List.flatMap_cons, runEvents_append, e1]; exact e2, h2⟩

/-- the recorder's pre (or post) event of one present character; `(0, [])` outside `sl` is junk (`presentFrom_ok`) -/
def charEvent (post : Bool) (v : Ver) (id : Int) (sl : List (Nat × Bool × Nat)) (co : Nat × CharOcc) : Nat × Bytes :=
  match sl[co.1]? with
  | some d => if post then (EV_FRAME_POST, encChar v Post.readPush id d.2.2 d.2.1 co.2.post)
              else (EV_FRAME_PRE, encChar v Pre.readPush id d.2.2 d.2.1 co.2.pre)
  | none => (0, [])

def charEvents (post : Bool) (v : Ver) (id : Int) (sl : List (Nat × Bool × Nat)) (present : List (Nat × CharOcc)) : List (Nat × Bytes) :=
  present.map (charEvent post v id sl)

def charCEvs (post : Bool) (present : List (Nat × CharOcc)) : List CEv :=
  present.map fun co => if post then .post co.1 co.2.post else .pre co.1 co.2.pre

def OccOK (v : Ver) (o : CharOcc) : Prop := RowOK v Pre.readPush o.pre ∧ RowOK v Post.readPush o.post

end Peppi
