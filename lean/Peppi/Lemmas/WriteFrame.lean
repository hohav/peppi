import Peppi.Lemmas.WriteSlots
/-! `Frame::write` on the expected columns of a history re-emits the recorder's events: one proof for every version, since
    the writer is one function that gates Frame Start (≥ 2.2), items and Frame End (≥ 3.0) by `if` (`frameEventsIf`, Tables.lean). -/
namespace Peppi
open Extracted

theorem concatRes_ok (l : List (Res Bytes)) (bs : List Bytes) (h : l = bs.map Res.ok) : concatRes l = .ok bs.flatten := by
  subst h
  induction bs with
  | nil => rfl
  | cons b t ih => simp only [List.map_cons, concatRes_cons, bind, pure, ih, List.flatten_cons]

theorem Res.bind_eq_of_ok {α β} {x : Res α} {f : α → Res β} (a : α) (hx : x = .ok a) : (x >>= f) = f a := by
  rw [hx]
  rfl

theorem items_index (h : List FrameOcc) (idx : Nat) (hidx : idx < h.length) (k : Nat) (hk : k < (h[idx]).items.length) :
    (h.flatMap (·.items))[itemsBefore h idx + k]? = some ((h[idx]).items[k]) := by
  rw [items_split h idx hidx]
  unfold itemsBefore
  rw [List.getElem?_append_right (Nat.le_add_right _ _), Nat.add_sub_cancel_left,
    List.getElem?_append_left hk, List.getElem?_eq_getElem hk]

theorem encEvents_flatMap {α} (l : List α) (f : α → List (Nat × Bytes)) :
    encEvents (l.flatMap f) = (l.map fun a => encEvents (f a)).flatten := by
  induction l with
  | nil => rfl
  | cons a t ih => simp only [List.flatMap_cons, encEvents_append, ih, List.map_cons, List.flatten_cons]

theorem writePass_exp (post : Bool) (v : Ver) (shape : List PortOccupancy) (h : List FrameOcc) (idx : Nat) (hidx : idx < h.length)
    (hn : (h[idx]).chars.length = nSlots shape) :
    concatRes ((expPorts shape h).map fun p => writePort v p post idx (h[idx]).id) =
      .ok (encEvents (charEvents post v (h[idx]).id (slotList shape 0) (presentFrom 0 (h[idx]).chars))) := by
  have := writePorts_cols post v (h[idx]).id idx (histAt h) (by intro c; simp [histAt]; exact hidx) shape 0
  rw [← pass_eq_events post v (h[idx]).id shape (h[idx]).chars hn]
  simp only [expPorts, expFlat, nSlots, List.range_eq_range']
  rw [this]
  congr 2
  funext c
  simp [histAt]

/-- the item rows of frame `idx`, as `Frame::write` walks them between the two offsets -/
theorem writeItems_exp (v : Ver) (h : List FrameOcc) (idx : Nat) (hidx : idx < h.length) :
    concatRes ((List.range (itemsBefore h (idx + 1) - itemsBefore h idx)).map fun k => do
          let body ← rowAt v Item.write ((h.flatMap (·.items)).map some) (itemsBefore h idx + k)
          pure ([0x3B] ++ toBE 4 (ofInt32 (h[idx]).id) ++ body)) =
      .ok (encEvents ((h[idx]).items.map fun r => (EV_ITEM, encPlain v Item.readPush (h[idx]).id r))) := by
  rw [itemsBefore_succ h idx hidx, Nat.add_sub_cancel_left]
  rw [concatRes_ok _ ((h[idx]).items.map fun r => encEvent (EV_ITEM, encPlain v Item.readPush (h[idx]).id r)) ?rows]
  · simp [encEvents, List.flatMap_def, List.map_map, Function.comp_def]
  · -- step `k` of the walk writes item `k` of the frame as its event
    apply List.ext_getElem (by simp)
    intro k hk1 hk2
    simp only [List.length_map, List.length_range] at hk1
    have : ((h.flatMap (·.items)).map some)[itemsBefore h idx + k]? = some (some (h[idx]).items[k]) := by
      rw [List.getElem?_map, items_index h idx hidx k hk1]; rfl
    simp only [List.getElem_map, List.getElem_range, bind, rowAt_some _ _ _ _ _ this, pure, encEvent, encPlain, encId,
      item_views.1]
    simp only [Res.ok.injEq, List.cons_append, List.nil_append, List.cons.injEq, and_true]
    decide

theorem writeFrame_exp (v : Ver) (shape : List PortOccupancy) (h : List FrameOcc) (idx : Nat) (hidx : idx < h.length)
    (hn : ∀ o ∈ h, o.chars.length = nSlots shape) :
    writeFrame v (expFrames v shape h) idx (h[idx]).id =
      .ok (encEvents (frameEventsIf (v.gte 2 2) (v.gte 3 0) v shape h[idx])) := by
  have hstart : (h.map fun o => some o.start)[idx]? = some (some (h[idx]).start) := by
    rw [List.getElem?_map, List.getElem?_eq_getElem hidx, Option.map_some]
  have hend : (h.map fun o => some o.fend)[idx]? = some (some (h[idx]).fend) := by
    rw [List.getElem?_map, List.getElem?_eq_getElem hidx, Option.map_some]
  have hpass := fun post => writePass_exp post v shape h idx hidx (hn _ (List.getElem_mem _))
  have c1 : (UInt8.ofNat EV_FRAME_START) = 58 := by decide
  have c2 : (UInt8.ofNat EV_FRAME_END) = 60 := by decide
  unfold writeFrame frameEventsIf
  simp only [encEvents_append]
  -- the five parts of the `do` block are the five parts of the frame's events, each behind the same gate
  refine (Res.bind_eq_of_ok _ ?start).trans <| (Res.bind_eq_of_ok _ (hpass false)).trans <| (Res.bind_eq_of_ok _ ?items).trans <|
    (Res.bind_eq_of_ok _ (hpass true)).trans <| (Res.bind_eq_of_ok _ ?fend).trans rfl
  case start =>
    cases h22 : v.gte 2 2
    · rfl
    · simp only [↓reduceIte, expFrames, h22, bind, pure, rowAt_some _ _ _ _ _ hstart, encEvents_cons, encEvents_nil, encEvent, encPlain,
        encId, start_views.1, c1, List.append_nil, List.cons_append, List.nil_append]
  case items =>
    cases h30 : v.gte 3 0
    · rfl
    · simp only [↓reduceIte, expFrames, h30, offsOf_get h idx (Nat.le_of_lt hidx), offsOf_get h (idx+1) hidx]
      exact writeItems_exp v h idx hidx
  case fend =>
    cases h30 : v.gte 3 0
    · rfl
    · simp only [↓reduceIte, expFrames, h30, bind, pure, rowAt_some _ _ _ _ _ hend, encEvents_cons, encEvents_nil, encEvent, encPlain,
        encId, end_views.1, c2, List.append_nil, List.cons_append, List.nil_append]

theorem writeFrames_exp (v : Ver) (shape : List PortOccupancy) (h : List FrameOcc) (hn : ∀ o ∈ h, o.chars.length = nSlots shape) :
    writeFrames v (expFrames v shape h) = .ok (encEvents (h.flatMap (frameEventsIf (v.gte 2 2) (v.gte 3 0) v shape))) := by
  unfold writeFrames
  rw [encEvents_flatMap]
  apply concatRes_ok
  apply List.ext_getElem (by simp [expFrames])
  intro idx h1 h2
  have hidx : idx < h.length := by simpa [expFrames] using h1
  have hid : (expFrames v shape h).id.getD idx 0 = (h[idx]).id := by
    simp [expFrames, List.getD_eq_getElem?_getD, List.getElem?_eq_getElem hidx]
  simp only [List.getElem_map, List.getElem_range, hid, writeFrame_exp v shape h idx hidx hn]

theorem writeFrame_A (v : Ver) (shape : List PortOccupancy) (h : List FrameOcc) (idx : Nat) (hidx : idx < h.length)
    (h30 : v.gte 3 0 = true) (h22 : v.gte 2 2 = true) (hn : ∀ o ∈ h, o.chars.length = nSlots shape) :
    writeFrame v (expFrames v shape h) idx (h[idx]).id = .ok (encEvents (frameEventsA v shape h[idx])) := by
  simpa only [h22, h30, frameEventsIf_A] using writeFrame_exp v shape h idx hidx hn

theorem writeFrames_A (v : Ver) (shape : List PortOccupancy) (h : List FrameOcc)
    (h30 : v.gte 3 0 = true) (h22 : v.gte 2 2 = true) (hn : ∀ o ∈ h, o.chars.length = nSlots shape) :
    writeFrames v (expFrames v shape h) = .ok (encEvents (h.flatMap (frameEventsA v shape))) := by
  simpa only [h22, h30, frameEventsIf_A] using writeFrames_exp v shape h hn

theorem writeFrame_B (v : Ver) (shape : List PortOccupancy) (h : List FrameOcc) (idx : Nat) (hidx : idx < h.length)
    (h30 : v.gte 3 0 = false) (h22 : v.gte 2 2 = true) (hn : ∀ o ∈ h, o.chars.length = nSlots shape) :
    writeFrame v (expFrames v shape h) idx (h[idx]).id = .ok (encEvents (frameEventsB v shape h[idx])) := by
  simpa only [h22, h30, frameEventsIf_B] using writeFrame_exp v shape h idx hidx hn

theorem writeFrames_B (v : Ver) (shape : List PortOccupancy) (h : List FrameOcc)
    (h30 : v.gte 3 0 = false) (h22 : v.gte 2 2 = true) (hn : ∀ o ∈ h, o.chars.length = nSlots shape) :
    writeFrames v (expFrames v shape h) = .ok (encEvents (h.flatMap (frameEventsB v shape))) := by
  simpa only [h22, h30, frameEventsIf_B] using writeFrames_exp v shape h hn

#print axioms writeFrame_A
#print axioms writeFrames_A
#print axioms writeFrames_B
end Peppi
