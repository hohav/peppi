import Peppi.Res
/-! C07, `.slpp` half: `read_arrow_frames` (repaired) over the abstract state sequence of the Arrow IPC stream reader. -/
namespace Peppi

/-- what `StreamReader::next` can yield -/
inductive SItem (χ : Type) where
  | chunk (c : χ)      -- `Ok(StreamState::Some(chunk))`
  | waiting            -- `Ok(StreamState::Waiting)`: EOF where a message was expected
  | fail               -- `Err(_)`
deriving Repr

/-- the `for result in reader` loop with the `frame: Option<Frame>` accumulator; the list is everything the iterator yields
    before it returns `None` -/
def readArrowLoop {χ : Type} : Option χ → List (SItem χ) → Res χ
  | some f, [] => .ok f
  | none, [] => .err "no batches"
  | _, .fail :: _ => .err "arrow"
  | _, .waiting :: _ => .err "unexpected end of Arrow stream"
  | none, .chunk c :: rest => readArrowLoop (some c) rest
  | some _, .chunk _ :: _ => .err "multiple batches"

def readArrowFrames {χ : Type} (items : List (SItem χ)) : Res χ := readArrowLoop none items

theorem readArrowFrames_cases {χ : Type} (items : List (SItem χ)) :
    (∃ c, items = [.chunk c]) ∨ ∃ e, readArrowFrames items = .err e :=
  match items with
  | [] => .inr ⟨_, rfl⟩
  | .fail :: _ => .inr ⟨_, rfl⟩
  | .waiting :: _ => .inr ⟨_, rfl⟩
  | [.chunk c] => .inl ⟨c, rfl⟩
  | .chunk _ :: .fail :: _ => .inr ⟨_, rfl⟩
  | .chunk _ :: .waiting :: _ => .inr ⟨_, rfl⟩
  | .chunk _ :: .chunk _ :: _ => .inr ⟨_, rfl⟩

/-- **C07 (`.slpp`, reader's reaction to every state sequence)**: a frame set is returned iff the stream yielded exactly one
    chunk and then ended; every other sequence — in particular every one containing `Waiting` — is an error; the loop is a
    structural recursion, so it terminates on every finite sequence and never sleeps -/
theorem readArrowFrames_ok_iff {χ : Type} (items : List (SItem χ)) (f : χ) :
    readArrowFrames items = .ok f ↔ items = [.chunk f] := by
  constructor
  · intro h
    obtain ⟨c, rfl⟩ | ⟨e, he⟩ := readArrowFrames_cases items
    · cases h; rfl
    · rw [he] at h; cases h
  · rintro rfl; rfl

theorem readArrowFrames_noPanic {χ : Type} (items : List (SItem χ)) : ∀ s, readArrowFrames items ≠ .panic s := by
  intro s h
  obtain ⟨c, rfl⟩ | ⟨e, he⟩ := readArrowFrames_cases items
  · cases h
  · rw [he] at h; cases h

#print axioms readArrowFrames_ok_iff
end Peppi
