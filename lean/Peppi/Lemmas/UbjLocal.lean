import Peppi.Local
/-! The UBJSON reader in combinator form (`byteCase`, `>>=`, `if` over the readers with one unit of fuel less), which locality
    (here, for truncation), `NoPanic`, `Fuel` and `ReadProg` walk. -/
namespace Peppi

/-- dispatch on the next byte -/
def byteCase {α} (f : UInt8 → Rd α) : Rd α := fun bs => match bs with | [] => .err "eof" | b :: rest => f b rest

/-- `Rd.u8` hands on the byte as a number: through this the lemmas about `Rd.u8 >>= k` apply to `byteCase` -/
theorem byteCase_eq {α} (f : UInt8 → Rd α) : byteCase f = Rd.u8 >>= fun n => f (UInt8.ofNat n) := by
  funext bs
  cases bs with
  | nil => rfl
  | cons b t => simp only [byteCase, bind, Rd.u8, UInt8.ofNat_toNat]

theorem local_byteCase {α} (f : UInt8 → Rd α) (hf : ∀ b, Rd.Local (f b)) : Rd.Local (byteCase f) :=
  byteCase_eq f ▸ Rd.local_bind _ _ Rd.local_u8 fun _ => hf _

section
variable (utf8 : Bytes → Bool)

theorem toUtf8_eq : toUtf8 utf8 = byteCase (fun len => Rd.take len.toNat >>= fun s => if utf8 s then pure s else Rd.fail "utf8") := by
  funext bs
  cases bs with
  | nil => rfl
  | cons len rest =>
    simp only [toUtf8, byteCase, bind, Rd.take]
    split
    · rfl
    · dsimp only  -- the `match` on the `.ok …` that `Rd.take` returned
      split <;> rfl

theorem local_toUtf8 : Rd.Local (toUtf8 utf8) := by
  rw [toUtf8_eq]
  apply local_byteCase; intro len
  apply Rd.local_bind _ _ (Rd.local_take _); intro s
  apply Rd.local_ite
  · exact Rd.local_pure _
  · exact Rd.local_fail _

theorem toVal_succ (f d : Nat) : toVal utf8 (f+1) d = byteCase (fun b =>
    if b = 0x53 then byteCase (fun c => if c = 0x55 then (toUtf8 utf8 >>= fun s => pure (Tree.str s)) else Rd.fail "expected 0x55")
    else if b = 0x6c then (Rd.take 4 >>= fun x => pure (Tree.int (toI32 (fromBE x))))
    else if b = 0x7b then ((fun bs => readMapLoop utf8 f (d+1) bs .nil : Rd KVs) >>= fun m => pure (Tree.map m))
    else Rd.fail "unexpected value type") := by
  funext bs
  unfold toVal
  -- the byte patterns of the model are the `if`s of the combinator form, in the same order
  split
  · rfl
  · split
    · rfl
    · rename_i rest'
      simp only [byteCase, ↓reduceIte, bind]
      rcases toUtf8 utf8 rest' with ⟨s, r⟩ | e | p <;> rfl
    · rename_i h
      simp only [byteCase, ↓reduceIte, if_neg h, Rd.fail]
  · simp only [byteCase, ↓reduceIte, bind, Rd.take, show ¬ ((0x6c : UInt8) = 0x53) by decide]
    split <;> rfl
  · rename_i rest
    simp only [byteCase, ↓reduceIte, bind, show ¬ ((0x7b : UInt8) = 0x53) by decide, show ¬ ((0x7b : UInt8) = 0x6c) by decide]
    rcases readMapLoop utf8 f (d + 1) rest .nil with ⟨m, r⟩ | e | p <;> rfl
  · rename_i h1 h2 h3
    simp only [byteCase, if_neg h1, if_neg h2, if_neg h3, Rd.fail]

theorem readMapLoop_succ (f d : Nat) (acc : KVs) : (fun bs => readMapLoop utf8 (f+1) d bs acc : Rd KVs) =
    if d > MAX_DEPTH then Rd.fail "too deep" else byteCase (fun b =>
      if b = 0x7d then pure acc
      else if b = 0x55 then (toUtf8 utf8 >>= fun k => toVal utf8 f d >>= fun v => (fun bs => readMapLoop utf8 f d bs (acc.insert k v) : Rd KVs))
      else Rd.fail "unexpected key type") := by
  funext bs
  conv => lhs; unfold readMapLoop
  split
  · rfl
  split
  · rfl
  · rfl
  · rename_i rest
    simp only [byteCase, ↓reduceIte, bind, show ¬ ((0x55 : UInt8) = 0x7d) by decide]
    rcases toUtf8 utf8 rest with ⟨k, r⟩ | e | p <;> try rfl
    dsimp only
    rcases toVal utf8 f d r with ⟨v, r'⟩ | e | p <;> rfl
  · rename_i h1 h2
    simp only [byteCase, if_neg h1, if_neg h2, Rd.fail]

theorem ubj_local : ∀ fuel : Nat,
    (∀ d, Rd.Local (toVal utf8 fuel d)) ∧ (∀ d acc, Rd.Local (fun bs => readMapLoop utf8 fuel d bs acc : Rd KVs)) := by
  intro fuel
  induction fuel with
  | zero => exact ⟨fun d bs a rest h => (by cases h), fun d acc bs a rest h => (by cases h)⟩
  | succ n ih =>
    refine ⟨?_, ?_⟩
    · intro d
      rw [toVal_succ]
      apply local_byteCase; intro b
      apply Rd.local_ite
      · apply local_byteCase; intro c
        apply Rd.local_ite
        · exact Rd.local_bind _ _ (local_toUtf8 utf8) (fun _ => Rd.local_pure _)
        · exact Rd.local_fail _
      apply Rd.local_ite
      · exact Rd.local_bind _ _ (Rd.local_take 4) (fun _ => Rd.local_pure _)
      apply Rd.local_ite
      · exact Rd.local_bind _ _ (ih.2 (d+1) .nil) (fun _ => Rd.local_pure _)
      · exact Rd.local_fail _
    · intro d acc
      rw [readMapLoop_succ]
      apply Rd.local_ite
      · exact Rd.local_fail _
      apply local_byteCase; intro b
      apply Rd.local_ite
      · exact Rd.local_pure _
      apply Rd.local_ite
      · apply Rd.local_bind _ _ (local_toUtf8 utf8); intro k
        apply Rd.local_bind _ _ (ih.1 d); intro v
        exact ih.2 d _
      · exact Rd.local_fail _

#print axioms ubj_local
end
end Peppi
