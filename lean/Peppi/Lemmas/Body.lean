import Peppi.Lemmas.CharRun
import Peppi.Lemmas.Perm
/-! Inside an open frame: any sequence of the frame's pre / post / item events on the real state acts on the flat slots as
    `runChars` on its character events and appends its item rows, so the order of events of different characters does not
    matter (C17: "non-canonical event order inside a frame"). -/
namespace Peppi
open Extracted

/-- one event of a frame body, addressed by flat character slot -/
inductive BEv where
  | pre (c : Nat) (r : Row)
  | post (c : Nat) (r : Row)
  | item (r : Row)

/-- the encoded event; `(0, [])` for a slot outside `sl`, junk that `BEv.OK` excludes -/
def BEv.enc (v : Ver) (id : Int) (sl : List (Nat × Bool × Nat)) : BEv → Nat × Bytes
  | .pre c r => (match sl[c]? with | some d => (EV_FRAME_PRE, encChar v Pre.readPush id d.2.2 d.2.1 r) | none => (0, []))
  | .post c r => (match sl[c]? with | some d => (EV_FRAME_POST, encChar v Post.readPush id d.2.2 d.2.1 r) | none => (0, []))
  | .item r => (EV_ITEM, encPlain v Item.readPush id r)

def BEv.cev : BEv → Option CEv
  | .pre c r => some (.pre c r)
  | .post c r => some (.post c r)
  | .item _ => none

def BEv.itemRow : BEv → Option Row
  | .item r => some r
  | _ => none

def BEv.OK (v : Ver) (n : Nat) : BEv → Prop
  | .pre c r => c < n ∧ RowOK v Pre.readPush r
  | .post c r => c < n ∧ RowOK v Post.readPush r
  | .item r => RowOK v Item.readPush r

/-- the reader is inside the open frame `id` of a game of version `v` whose ports have layout `shape` -/
structure InFrame (v : Ver) (shape : List PortOccupancy) (id : Int) (st : PState) : Prop where
  ver : st.start.version = v
  shp : shapeOf st.frames.ports = shape
  map : PortMapOK st.portIdx shape
  small : ∀ p ∈ shape, p.port < 256
  last : st.lastId = some id

theorem InFrame.of_ports {st : PState} {id : Int} (hlast : st.lastId = some id)
    (hmap : PortMapOK st.portIdx (shapeOf st.frames.ports)) (hports : ∀ p ∈ st.frames.ports, p.port < 256) :
    InFrame st.start.version (shapeOf st.frames.ports) id st :=
  ⟨rfl, rfl, hmap, fun p hp => by obtain ⟨q, hq, rfl⟩ := List.mem_map.mp hp; exact hports q hq, hlast⟩

theorem InFrame.flat_length {v shape id st} (w : InFrame v shape id st) : (flatSlots st.frames.ports).length = nSlots shape := by
  rw [flatSlots_length, w.shp]; rfl

/-- the handler finds the slot that descriptor `d` names, and updating it is `modify c` on the flat slots -/
theorem InFrame.slot {v shape id st} (w : InFrame v shape id st) {c : Nat} {d : Nat × Bool × Nat}
    (hd : (slotList shape 0)[c]? = some d) :
    d.2.2 < 256 ∧ st.slotIdx d.2.2 d.2.1 = .ok d.1 ∧
    ∀ f, InFrame v shape id (st.updSlot d.1 d.2.1 f) ∧
      flatSlots (st.updSlot d.1 d.2.1 f).frames.ports = (flatSlots st.frames.ports).modify c f := by
  obtain ⟨hv, hshape, hmap, hsmall, hlast⟩ := w
  subst hshape
  obtain ⟨k, p, hk, hp, hport, hfol, hidx⟩ := slotList_index st.frames.ports 0 c d hd
  obtain rfl : k = d.1 := (hk.trans (Nat.zero_add k)).symm
  obtain ⟨hpi, rfl⟩ := List.getElem?_eq_some_iff.mp hp
  refine ⟨?_, ?_, fun f => ⟨⟨hv, shapeOf_updSlot _ _ _ _, hmap, hsmall, hlast⟩, ?_⟩⟩
  · rw [← hport]; exact hsmall _ (List.mem_map.mpr ⟨_, List.getElem_mem hpi, rfl⟩)
  · have hm := hmap d.1 (by simpa [shapeOf] using hpi)
    simp only [shapeOf, List.getElem_map, hport] at hm
    simp only [PState.slotIdx, hm, slotOk, hp]
    cases hf : d.2.1 with
    | false => simp
    | true => simp [Option.isNone_eq_false_iff.mpr (hfol hf)]
  · show flatSlots (st.frames.ports.modify _ _) = _
    rw [flatSlots_updSlot _ _ _ _ hpi hfol, hidx]

/-- item events need the item column; without them (versions < 3.0) it may be absent -/
theorem InFrame.run {v : Ver} {shape : List PortOccupancy} {id : Int} (hid : I32 id) (body : List BEv) :
    ∀ {st : PState}, InFrame v shape id st → (∀ e ∈ body, e.OK v (nSlots shape)) →
      (body.filterMap BEv.itemRow ≠ [] → st.frames.item.isSome) →
      ∃ P, runEvents st (body.map (BEv.enc v id (slotList shape 0))) =
          .ok { st with frames := { st.frames with ports := P, item := st.frames.item.map (· ++ (body.filterMap BEv.itemRow).map some) } } ∧
        shapeOf P = shape ∧ runChars (flatSlots st.frames.ports) (body.filterMap BEv.cev) = some (flatSlots P) := by
  induction body with
  | nil =>
    intro st w _ _
    refine ⟨st.frames.ports, ?_, w.shp, rfl⟩
    cases hi : st.frames.item <;> simp [runEvents, ← hi]
  | cons e rest ih =>
    intro st w hok hit
    have hrest : ∀ e' ∈ rest, e'.OK v (nSlots shape) := fun e' he' => hok e' (by simp [he'])
    -- a character event `ce` on flat slot `c`, given what the handler does once the slot is found
    have charStep : ∀ (c : Nat) (ce : CEv), c < nSlots shape → ce.target = c → e.cev = some ce → e.itemRow = none →
        (∀ d, (slotList shape 0)[c]? = some d → d.2.2 < 256 → st.slotIdx d.2.2 d.2.1 = .ok d.1 →
          handleEvent st (e.enc v id (slotList shape 0)).1 (e.enc v id (slotList shape 0)).2 = .ok (st.updSlot d.1 d.2.1 ce.apply)) →
        ∃ P, runEvents st ((e :: rest).map (BEv.enc v id (slotList shape 0))) =
            .ok { st with frames := { st.frames with ports := P, item := st.frames.item.map (· ++ ((e :: rest).filterMap BEv.itemRow).map some) } } ∧
          shapeOf P = shape ∧ runChars (flatSlots st.frames.ports) ((e :: rest).filterMap BEv.cev) = some (flatSlots P) := by
      intro c ce hc htarget hcev hitem hhandle
      obtain ⟨d, hd⟩ : ∃ d, (slotList shape 0)[c]? = some d := ⟨_, List.getElem?_eq_getElem hc⟩
      obtain ⟨h256, hslot, hupd⟩ := w.slot hd
      obtain ⟨w', hflat⟩ := hupd ce.apply
      obtain ⟨P, hP, hPs, hPf⟩ := ih w' hrest (fun h => hit (by simpa [List.filterMap_cons, hitem] using h))
      refine ⟨P, ?_, hPs, ?_⟩
      · simp only [List.map_cons, runEvents, hhandle d hd h256 hslot, hP, List.filterMap_cons, hitem]; rfl
      · rw [List.filterMap_cons_some hcev, runChars_cons (by rw [htarget, w.flat_length]; exact hc), htarget, ← hflat]
        exact hPf
    cases e with
    | pre c r =>
      obtain ⟨hc, hrow⟩ := hok (.pre c r) (by simp)
      exact charStep c (.pre c r) hc rfl rfl rfl (fun d hd h256 hslot => by
        simp only [BEv.enc, hd]
        exact handle_pre_open st id d.2.2 d.2.1 r d.1 w.ver hid h256 hrow w.last hslot)
    | post c r =>
      obtain ⟨hc, hrow⟩ := hok (.post c r) (by simp)
      exact charStep c (.post c r) hc rfl rfl rfl (fun d hd h256 hslot => by
        simp only [BEv.enc, hd]
        exact handle_post st id d.2.2 d.2.1 r d.1 w.ver hid h256 hrow w.last hslot)
    | item r =>
      have hrow : RowOK v Item.readPush r := hok (.item r) (by simp)
      obtain ⟨it, hitm⟩ := Option.isSome_iff_exists.mp (hit (by simp [BEv.itemRow]))
      have h1 := handle_item st id r it w.ver hid hrow w.last hitm
      obtain ⟨P, hP, hPs, hPf⟩ := ih (st := { st with frames := { st.frames with item := some (it ++ [some r]) } })
        ⟨w.ver, w.shp, w.map, w.small, by simpa [PState.lastId] using w.last⟩ hrest (fun _ => rfl)
      refine ⟨P, ?_, hPs, hPf⟩
      simp only [List.map_cons, runEvents, BEv.enc, h1, hP, hitm]
      simp [BEv.itemRow, List.append_assoc]

/-- `InFrame.run` from a state that has an item column, with the flat slots afterwards named -/
theorem run_body_events (id : Int) (hid : I32 id) (body : List BEv) :
    ∀ (st : PState) (cs' : List DCols) (it : SCols),
      st.lastId = some id →
      PortMapOK st.portIdx (shapeOf st.frames.ports) →
      (∀ p ∈ st.frames.ports, p.port < 256) →
      (∀ e ∈ body, e.OK st.start.version (slotList (shapeOf st.frames.ports) 0).length) →
      st.frames.item = some it →
      runChars (flatSlots st.frames.ports) (body.filterMap BEv.cev) = some cs' →
      ∃ P, runEvents st (body.map (BEv.enc st.start.version id (slotList (shapeOf st.frames.ports) 0)))
            = .ok { st with frames := { st.frames with ports := P, item := some (it ++ (body.filterMap BEv.itemRow).map some) } } ∧
        shapeOf P = shapeOf st.frames.ports ∧ flatSlots P = cs' := by
  intro st cs' it hlast hmap hports hok hit hrun
  obtain ⟨P, hP, hPs, hPf⟩ := (InFrame.of_ports hlast hmap hports).run hid body hok (fun _ => by simp [hit])
  exact ⟨P, by rw [hP, hit]; rfl, hPs, Option.some.inj (hPf.symm.trans hrun)⟩

#print axioms run_body_events

/-- the pre (or post) events of the present slots as body events: a body without items -/
def charBody (post : Bool) (present : List (Nat × CharOcc)) : List BEv :=
  present.map fun co => if post then .post co.1 co.2.post else .pre co.1 co.2.pre

section
variable {post : Bool} {present : List (Nat × CharOcc)}

theorem charBody_enc (v : Ver) (id : Int) (sl : List (Nat × Bool × Nat)) :
    (charBody post present).map (BEv.enc v id sl) = charEvents post v id sl present := by
  rw [charBody, charEvents, List.map_map]
  exact List.map_congr_left fun co _ => by cases post <;> rfl

theorem charBody_cev : (charBody post present).filterMap BEv.cev = charCEvs post present := by
  cases post <;> simp [charBody, charCEvs, List.filterMap_map, Function.comp_def, BEv.cev]

theorem charBody_items : (charBody post present).filterMap BEv.itemRow = [] := by
  cases post <;> simp [charBody, List.filterMap_map, Function.comp_def, BEv.itemRow]

theorem charBody_ok {v : Ver} {n : Nat} (h : ∀ co ∈ present, co.1 < n ∧ OccOK v co.2) : ∀ e ∈ charBody post present, e.OK v n := by
  intro e he
  obtain ⟨co, hco, rfl⟩ := List.mem_map.mp he
  cases post
  · exact ⟨(h co hco).1, (h co hco).2.1⟩
  · exact ⟨(h co hco).1, (h co hco).2.2⟩
end

/-- `InFrame.run` for the pre (or post) events of the present slots -/
theorem run_char_events (post : Bool) (id : Int) (hid : I32 id) (present : List (Nat × CharOcc)) :
    ∀ (st : PState) (cs' : List DCols),
      st.lastId = some id →
      PortMapOK st.portIdx (shapeOf st.frames.ports) →
      (∀ p ∈ st.frames.ports, p.port < 256) →
      (∀ co ∈ present, co.1 < (slotList (shapeOf st.frames.ports) 0).length ∧ OccOK st.start.version co.2) →
      runChars (flatSlots st.frames.ports) (charCEvs post present) = some cs' →
      ∃ P, runEvents st (charEvents post st.start.version id (slotList (shapeOf st.frames.ports) 0) present)
            = .ok { st with frames := { st.frames with ports := P } } ∧
        shapeOf P = shapeOf st.frames.ports ∧ flatSlots P = cs' := by
  intro st cs' hlast hmap hports hpres hrun
  obtain ⟨P, hP, hPs, hPf⟩ := (InFrame.of_ports hlast hmap hports).run hid (charBody post present) (charBody_ok hpres)
    (fun h => absurd charBody_items h)
  rw [charBody_cev] at hPf
  refine ⟨P, ?_, hPs, Option.some.inj (hPf.symm.trans hrun)⟩
  rw [← charBody_enc, hP, charBody_items]
  simp

#print axioms run_char_events

theorem cev_target_lt (v : Ver) (n : Nat) (body : List BEv) (hok : ∀ e ∈ body, e.OK v n) :
    ∀ ce ∈ body.filterMap BEv.cev, ce.target < n := by
  intro ce hce
  obtain ⟨e, he, hec⟩ := List.mem_filterMap.mp hce
  have := hok e he
  cases e with
  | pre c r => simp only [BEv.cev, Option.some.injEq] at hec; subst hec; exact this.1
  | post c r => simp only [BEv.cev, Option.some.injEq] at hec; subst hec; exact this.1
  | item r => simp [BEv.cev] at hec

/-- **C17 (event order inside a frame)**: two bodies with the same events per character (in the same order) and the same
    item sequence leave the reader in the same state — in particular any permutation of the canonical body that keeps each
    character's pre before its post and the items in order -/
theorem run_body_perm (id : Int) (hid : I32 id) (body body' : List BEv) (st : PState) (it : SCols)
    (hlast : st.lastId = some id) (hmap : PortMapOK st.portIdx (shapeOf st.frames.ports)) (hports : ∀ p ∈ st.frames.ports, p.port < 256)
    (hok : ∀ e ∈ body, e.OK st.start.version (slotList (shapeOf st.frames.ports) 0).length)
    (hok' : ∀ e ∈ body', e.OK st.start.version (slotList (shapeOf st.frames.ports) 0).length)
    (hit : st.frames.item = some it)
    (hproj : ∀ c, (body'.filterMap BEv.cev).filter (·.target == c) = (body.filterMap BEv.cev).filter (·.target == c))
    (hitems : body'.filterMap BEv.itemRow = body.filterMap BEv.itemRow) :
    runEvents st (body'.map (BEv.enc st.start.version id (slotList (shapeOf st.frames.ports) 0))) =
      runEvents st (body.map (BEv.enc st.start.version id (slotList (shapeOf st.frames.ports) 0))) := by
  have w := InFrame.of_ports hlast hmap hports
  obtain ⟨P, hP, hPs, hPf⟩ := w.run hid body hok (fun _ => by simp [hit])
  obtain ⟨P', hP', hPs', hPf'⟩ := w.run hid body' hok' (fun _ => by simp [hit])
  -- both bodies act on the flat slots in the same way (`runChars_perm`), so the ports afterwards are the same
  have ht : ∀ ce ∈ body.filterMap BEv.cev, ce.target < (flatSlots st.frames.ports).length := by
    rw [w.flat_length]
    exact cev_target_lt _ _ body hok
  rw [runChars_perm _ _ _ hproj ht, hPf] at hPf'
  have hflat : flatSlots P' = flatSlots P := (Option.some.inj hPf').symm
  have : P' = P := ports_ext P' P (hPs'.trans hPs.symm) hflat
  rw [hP', hP, this, hitems]

#print axioms run_body_perm
end Peppi
