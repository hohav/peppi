import Peppi.Lemmas.HandleSpec
import Peppi.Lemmas.UbjLocal
/-! C06: no reader function panics, for any input.  The walks through `player` and `gameStartP` also yield what `PortMap` and
    `C19` state (`PlayerOk`, the order of the ports); the walk through `parse_start` also counts the bytes, for C12. -/
namespace Peppi
open Extracted

/-- closing a frame (below 2.2, at a Frame Pre with the next id); in the handler: `HandleRel.close` -/
theorem StInv_close (st : PState) (h : StInv st) (ids : List Int) :
    StInv { st with frames := { st.frames.close with id := ids } } :=
  ⟨fun port pi hp => by simpa [close_len] using h.ports port pi hp, h.endCols, h.offs⟩

theorem handleEvent_safe (st : PState) (hinv : StInv st) (code : Nat) (buf : Bytes) :
    Res.Safe StInv (handleEvent st code buf) :=
  Res.safe_iff.2 (Res.wp_imp (Res.wp_mono (handleEvent_spec st code buf) fun _ _ h => h.inv hinv) fun h => h hinv)

#print axioms handleEvent_safe

theorem handleSplitter_safe (buf : Bytes) (st : PState) (hinv : StInv st) :
    Res.Safe (fun p => StInv p.2) (handleSplitter buf st) :=
  Res.safe_iff.2 (Res.wp_mono (handleSplitter_spec buf st) fun _ _ h => StInv.congr h.1 h.2 hinv)

theorem parseEvent_safe (ps : ParseState) (hinv : StInv ps.st) :
    Rd.Safe (fun r => StInv r.2.st) (parseEvent ps) :=
  Rd.safe_iff.2 fun bs => Res.wp_imp (Rd.wp_mono (parseEvent_spec ps bs) fun _ _ _ h => h.1 hinv) fun h => h hinv

theorem eventLoop_safe : ∀ (fuel rawLen : Nat) (ps : ParseState) (bs : Bytes), StInv ps.st →
    Res.Safe (fun r => StInv r.1.st) (eventLoop fuel rawLen ps bs) := fun fuel rawLen ps bs h =>
  Res.safe_iff.2 (eventLoop_wp (fun ps _ => StInv ps.st) (fun ps bs h => Rd.safe_iff.1 (parseEvent_safe ps h) bs) fuel rawLen ps bs h)

#print axioms eventLoop_safe

@[wp] theorem wp_byteCase {α} {pn : Prop} (f : UInt8 → Rd α) (Q : α → Bytes → Prop) (bs : Bytes) :
    Rd.wp pn (byteCase f) Q bs ↔ ∀ b t, bs = b :: t → Rd.wp pn (f b) Q t := by
  rw [byteCase_eq, Rd.wp_bind, Rd.wp_u8]
  simp only [UInt8.ofNat_toNat]

theorem ubj_noPanic (utf8 : Bytes → Bool) : ∀ fuel : Nat,
    (∀ depth bs, Res.NoPanic (toVal utf8 fuel depth bs)) ∧ (∀ depth bs acc, Res.NoPanic (readMapLoop utf8 fuel depth bs acc)) := by
  have hu : ∀ bs, Rd.wp False (toUtf8 utf8) (fun _ _ => True) bs := fun bs => by
    rw [toUtf8_eq]
    simp only [wp]
  intro fuel
  induction fuel with
  | zero => exact ⟨fun _ _ _ h => (by cases h), fun _ _ _ _ h => (by cases h)⟩
  | succ n ih =>
    have ihv d bs : Rd.wp False (toVal utf8 n d) (fun _ _ => True) bs := Res.noPanic_iff.1 (ih.1 d bs)
    have ihm d acc bs : Rd.wp False (fun bs => readMapLoop utf8 n d bs acc) (fun _ _ => True) bs :=
      Res.noPanic_iff.1 (ih.2 d bs acc)
    refine ⟨fun d bs => Res.noPanic_iff.2 ?_, fun d bs acc => Res.noPanic_iff.2 ?_⟩
    · show Rd.wp False (toVal utf8 (n + 1) d) (fun _ _ => True) bs
      rw [toVal_succ]
      simp only [wp, hu, ihm]
    · show Rd.wp False (fun bs => readMapLoop utf8 (n + 1) d bs acc) (fun _ _ => True) bs
      rw [readMapLoop_succ]
      simp only [wp, hu, ihv, ihm]

theorem readMap_noPanic (utf8 : Bytes → Bool) (bs : Bytes) : Res.NoPanic (readMap utf8 bs) :=
  (ubj_noPanic utf8 _).2 _ _ _

theorem meleeField_noPanic (T b) : Res.NoPanic (meleeField T b) := Res.noPanic_iff.2 (by simp only [meleeField, wp])
theorem utf8Field_noPanic (T b d) : Res.NoPanic (utf8Field T b d) := Res.noPanic_iff.2 (by simp only [utf8Field, wp])
theorem ucfEnum_noPanic (x) : Res.NoPanic (ucfEnum x) := Res.noPanic_iff.2 (by simp only [ucfEnum, wp])

theorem meleeField_safe (T : TextOracle) (b : Bytes) :
    Res.Safe (fun s => s = untilNul b ∧ T.sjisOk (untilNul b) = true) (meleeField T b) :=
  Res.safe_iff.2 (by
    simp only [meleeField, wp]
    exact fun h => h)

/-- an accepted player record has the port it was parsed for and, as name tag, its field up to the first NUL, accepted by
    the Shift-JIS oracle -/
def PlayerOk (T : TextOracle) (port : Nat) (v1_3 : Option Bytes) (o : Option Player) : Prop :=
  ∀ p, o = some p → p.port = port ∧ ∀ b, v1_3 = some b → p.nameTag = some (untilNul b) ∧ T.sjisOk (untilNul b) = true

theorem player_safe (T : TextOracle) (port : Nat) (v0 : Bytes) (isTeams : Bool) (v1_0 v1_3 n c v3_11 : Option Bytes) :
    Res.Safe (PlayerOk T port v1_3) (player T port v0 isTeams v1_0 v1_3 n c v3_11) := by
  refine Res.safe_iff.2 ?_
  unfold player
  -- `player` is three optional parts, each a `match` whose arms all end in the same continuation (a `have` of the
  -- `do` block): name the continuations and take them from the inside out, so that each part is looked at once
  extract_lets at_ character tyByte ty stocks costume teamShade handicap teamColor team bitfield cpuLevel offense defense model afterUcf
  have hUcf : ∀ ucf, Res.wp False (afterUcf ucf) (PlayerOk T port v1_3) := by
    intro ucf
    dsimp -zeta only [afterUcf]
    extract_lets afterTag
    have hTag : ∀ nameTag, (∀ b, v1_3 = some b → nameTag = some (untilNul b) ∧ T.sjisOk (untilNul b) = true) →
        Res.wp False (afterTag nameTag) (PlayerOk T port v1_3) := by
      intro nameTag hn
      dsimp -zeta only [afterTag]
      extract_lets afterNet
      have hNet : ∀ netplay, Res.wp False (afterNet netplay) (PlayerOk T port v1_3) := by
        intro netplay p hp
        obtain ⟨t, -, rfl⟩ := Option.map_eq_some_iff.mp hp
        exact ⟨rfl, hn⟩
      split
      · extract_lets afterSuid
        have hSuid : ∀ suid, Res.wp False (afterSuid suid) (PlayerOk T port v1_3) := fun suid =>
          Res.wp_then (meleeField_noPanic _ _) fun _ => Res.wp_then (meleeField_noPanic _ _) fun _ => hNet _
        cases v3_11 with
        | none => exact hSuid _
        | some b => exact Res.wp_then (utf8Field_noPanic _ _ _) fun _ => hSuid _
      · exact hNet _
    cases v1_3 with
    | none => exact hTag _ (fun b hb => nomatch hb)
    | some b =>
      exact Res.wp_seq (Res.safe_iff.1 (meleeField_safe T b)) fun s _ hs =>
        hTag _ (fun b' hb' => by cases hb'; exact ⟨by rw [hs.1], hs.2⟩)
  cases v1_0 with
  | none => exact hUcf _
  | some b => exact Res.wp_then (ucfEnum_noPanic _) fun _ => Res.wp_then (ucfEnum_noPanic _) fun _ => hUcf _

theorem player_port_wp (T port v0 isTeams v1_0 v1_3 n c v3_11) :
    Res.wp False (player T port v0 isTeams v1_0 v1_3 n c v3_11) fun o => ∀ p, o = some p → p.port = port :=
  Res.wp_mono (Res.safe_iff.1 (player_safe T port v0 isTeams v1_0 v1_3 n c v3_11)) fun _ _ h p hp => (h p hp).1

theorem collectPlayers_wp {pn : Prop} (f : Nat → Res (Option Player))
    (hf : ∀ n, Res.wp pn (f n) fun o => ∀ p, o = some p → p.port = n) (ns : List Nat) :
    Res.wp pn (collectPlayers (ns.map f)) fun ps => (ps.map (·.port)).Sublist ns := by
  unfold collectPlayers
  induction ns with
  | nil => exact .slnil
  | cons n t ih =>
    rw [List.map_cons, List.foldr_cons]
    refine Res.wp_seq (hf n) fun o _ ho => Res.wp_seq ih fun rest _ hsub => ?_
    cases o with
    | none => exact hsub.cons n
    | some p => exact ho p rfl ▸ hsub.cons_cons p.port

theorem playerBytes_wp {pn : Prop} (n m : Nat) (Q : List Bytes → Bytes → Prop) (bs : Bytes) :
    Rd.wp pn (playerBytes n m) Q bs ↔
      (n * m ≤ bs.length → Q ((List.range m).map fun i => (bs.drop (n * i)).take n) (bs.drop (n * m))) := by
  simp only [Rd.wp, playerBytes]
  split
  · exact ⟨fun _ h => absurd h (Nat.not_le.2 ‹_›), fun _ => trivial⟩
  · exact ⟨fun h _ => h, fun h => h (Nat.le_of_not_lt ‹_›)⟩

/-- the last step of `gameStartP` as a conditional rewrite for the walk below -/
theorem collectPlayers_wp_true (f : Nat → Res (Option Player)) (ns : List Nat)
    (hf : ∀ n, Res.wp False (f n) fun o => ∀ p, o = some p → p.port = n) :
    Res.wp False (collectPlayers (ns.map f)) (fun ps => (ps.map (·.port)).Sublist ns) ↔ True :=
  iff_true_intro (collectPlayers_wp f hf ns)

theorem gameStartP_safe (T : TextOracle) (block bs : Bytes) :
    Rd.wp False (gameStartP T block) (fun s _ => (s.players.map (·.port)).Sublist (List.range NUM_PORTS)) bs := by
  simp only [gameStartP, wp, playerBytes_wp, Res.wp_noPanic (utf8Field_noPanic _ _ _),
    collectPlayers_wp_true _ _ fun n => player_port_wp ..]

theorem gameStart_wp {pn : Prop} (T : TextOracle) (block : Bytes) (Q : Start → Prop) :
    Res.wp pn (gameStart T block) Q ↔ Rd.wp pn (gameStartP T block) (fun s _ => Q { s with bytes := block }) block := by
  unfold gameStart Rd.wp
  cases gameStartP T block block <;> rfl

theorem gameStart_noPanic (T : TextOracle) (block : Bytes) : Res.NoPanic (gameStart T block) :=
  Res.noPanic_iff.2 ((gameStart_wp T block _).2 (Rd.wp_mono (gameStartP_safe T block block) fun _ _ _ _ => trivial))

#print axioms gameStart_noPanic

theorem payloadTriples_noPanic : ∀ (bs : Bytes) (acc : List (Nat × Nat)), Res.NoPanic (payloadTriples bs acc)
  | [], _ | [_], _ | [_, _], _ => fun s => by simp [payloadTriples]
  | _ :: _ :: _ :: rest, _ =>
    Res.noPanic_iff.2 (by simp only [payloadTriples, wp, Res.wp_noPanic (payloadTriples_noPanic rest _)])

theorem expectBytes_noPanic (e : Bytes) : Rd.NoPanic (expectBytes e) :=
  Rd.noPanic_iff.2 fun bs => by simp only [expectBytes, wp]

theorem parsePayloads_spec (bs : Bytes) : Rd.wp False parsePayloads (fun r rest => r.1 + rest.length = bs.length) bs := by
  simp only [parsePayloads, wp]
  -- the guards in the order of the code: a command byte `c`, which is `EV_PAYLOADS`; a size byte `s` with `s % 3 = 1`;
  -- `s - 1` bytes for the table (`hl`)
  intro c t hbs _ s t2 ht hs hl
  subst hbs ht
  -- the table parses to some `sizes` (no panic), which hold Game Start and Game End
  refine Res.wp_mono (Res.noPanic_iff.1 (payloadTriples_noPanic _ _)) fun _ _ _ _ _ => ?_
  simp only [List.length_drop, List.length_cons]
  omega

theorem parseGameStart_spec (T : TextOracle) (sizes : List (Nat × Nat)) (br : Nat) (bs : Bytes) :
    Rd.wp False (parseGameStart T sizes br) (fun r rest => r.1 + rest.length = br + bs.length) bs := by
  simp only [parseGameStart, wp]
  intro c t hbs
  subst hbs
  split
  · trivial
  · simp only [wp]
    -- the command byte `c` has a size in the table; that many bytes are there (`hl`); `c` is `EV_GAME_START`
    intro hl _
    refine Res.wp_mono (Res.noPanic_iff.1 (gameStart_noPanic _ _)) fun _ _ _ => ?_
    simp only [List.length_drop, List.length_cons]
    omega

theorem StInv_init (sizes) (start : Start) :
    StInv { sizes, splitRaw := [], splitActual := 0,
            portIdx := (List.range 4).map fun p => ((portOccupancy start).findIdx? (·.port == p)),
            start, fend := none, frames := FCols.new start.version (portOccupancy start), metadata := none, gecko := none,
            doubleGameEnd := none } := by
  refine ⟨?_, ?_, ?_⟩
  · intro port pi hp
    simp only [FCols.new, List.length_map]
    simp only [List.getD_eq_getElem?_getD, List.getElem?_map] at hp
    cases hr : (List.range 4)[port]? with
    | none => simp [hr] at hp
    | some p =>
      simp only [hr, Option.map_some, Option.getD_some] at hp
      exact (List.findIdx?_eq_some_iff_getElem.mp hp).1
  · intro h
    simp only [FCols.new] at h ⊢
    split at h <;> simp_all
  · intro offs items ho hi
    simp only [FCols.new] at ho hi
    split at ho
    · simp only [Option.some.injEq] at ho; subst ho; simp
    · simp at ho

/-- **C06 / C12**, `parse_start` on any input: the state it builds satisfies `StInv`; the counter is the number of bytes taken -/
theorem parseStart_spec (T : TextOracle) (bs : Bytes) :
    Rd.wp False (parseStart T) (fun ps rest => StInv ps.st ∧ ps.bytesRead + rest.length = bs.length) bs := by
  simp only [parseStart, wp]
  refine Rd.wp_mono (parsePayloads_spec bs) fun x r1 _ h1 => ?_
  refine Rd.wp_mono (parseGameStart_spec T x.2 x.1 r1) fun y r2 _ h2 => ⟨StInv_init x.2 y.2, ?_⟩
  show y.1 + r2.length = bs.length
  omega

theorem parseStart_safe (T : TextOracle) : Rd.Safe (fun ps => StInv ps.st) (parseStart T) :=
  Rd.safe_iff.2 fun bs => Rd.wp_mono (parseStart_spec T bs) fun _ _ _ h => h.1

theorem parseMetadata_noPanic (utf8 st) : Rd.NoPanic (parseMetadata utf8 st) :=
  Rd.noPanic_iff.2 fun bs => by
    have hm : Rd.NoPanic (fun bs => readMap utf8 bs : Rd KVs) := fun bs => readMap_noPanic utf8 bs
    simp only [parseMetadata, wp, Rd.wp_noPanic (expectBytes_noPanic _), Rd.wp_noPanic hm]

theorem readTail_noPanic (T rawLen ps) : Rd.NoPanic (readTail T rawLen ps) :=
  Rd.noPanic_iff.2 fun bs => by
    simp only [readTail, wp, Rd.wp_noPanic (parseMetadata_noPanic _ _), Rd.wp_noPanic (expectBytes_noPanic _)]

theorem skipToEnd_safe (rawLen ps) (h : StInv ps.st) : Rd.Safe (fun ps' => StInv ps'.st) (skipToEnd rawLen ps) :=
  Rd.safe_iff.2 fun bs => by
    simp only [skipToEnd]
    split
    · trivial
    · exact h

theorem readSlp_wp {pn : Prop} (T : TextOracle) (opts : Opts) (input : Bytes) (Q : Game → Prop) :
    Res.wp pn (readSlp T opts input) Q ↔ Rd.wp pn (readP T opts)
      (fun g rest => Q { g with hashedLen := if opts.computeHash then some (input.length - rest.length) else none }) input := by
  unfold readSlp Rd.wp
  cases readP T opts input <;> rfl

/-- **C06 (model half)**: for every input and every option set, the `.slp` reader returns `ok` or `err`, never a panic -/
theorem readSlp_noPanic (T : TextOracle) (opts : Opts) (input : Bytes) : ∀ s, readSlp T opts input ≠ .panic s := by
  have hh : Rd.NoPanic parseHeader :=
    Rd.noPanic_iff.2 fun bs => by simp only [parseHeader, wp, Rd.wp_noPanic (expectBytes_noPanic _)]
  -- the invariant established by `parseStart` is carried through the optional jump and the loop
  have hp : Rd.wp False (readP T opts) (fun _ _ => True) input := by
    unfold readP loopTail
    refine Rd.wp_seq (Rd.noPanic_iff.1 hh _) fun rawLen r1 _ => ?_
    refine Rd.wp_seq (Rd.safe_iff.1 (parseStart_safe T) _) fun ps r2 hps => ?_
    refine Rd.wp_seq (R := fun ps _ => StInv ps.st) ?_ fun ps r3 hps => ?_
    · split
      · exact Rd.safe_iff.1 (skipToEnd_safe rawLen ps hps) _
      · exact hps
    refine Rd.wp_seq (R := fun ps _ => StInv ps.st) (Res.safe_iff.1 (eventLoop_safe _ rawLen ps r3 hps)) fun ps r4 _ => ?_
    exact Rd.noPanic_iff.1 (readTail_noPanic T rawLen ps) _
  exact Res.noPanic_iff.2 ((readSlp_wp T opts input _).2 (Rd.wp_mono hp fun _ _ _ _ => trivial))

#print axioms readSlp_noPanic
end Peppi
