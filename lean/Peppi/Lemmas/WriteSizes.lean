import Peppi.Lemmas.WriteCount
import Peppi.Lemmas.Tables
/-! Writer side, the payload-size table: `payload_sizes` of the game a well-formed replay denotes is the canonical table (in its
    gated form, `canonTableAny_flat` in Tables.lean, since the writer gates by `if`), and what `raw_size` looks up in it. -/
namespace Peppi
open Extracted

theorem viewSize_foldl (v : Ver) (L : List Fld) (acc : Nat) :
    (L.map fun f => (f.width, f.gates)).foldl (fun a e => if e.2.all (fun g => v.gte g.1 g.2) then a + e.1 else a) acc = acc + rowSize v L := by
  induction L generalizing acc with
  | nil => rfl
  | cons f fs ih =>
    rw [List.map_cons, List.foldl_cons, ih, rowSize, visible]
    cases f.gates.all fun g => v.gte g.1 g.2
    · exact congrArg (acc + ·) (Nat.zero_add _).symm
    · exact Nat.add_assoc _ _ _

theorem viewSize_eq (v : Ver) (L : List Fld) : viewSize v (L.map fun f => (f.width, f.gates)) = rowSize v L :=
  (viewSize_foldl v L 0).trans (Nat.zero_add _)

/-! Of the game's Game End the writer lemmas need only that it carries the history's end block (`hb`); `parsedEnd_bytes` gets
    that from what the read theorems give.  (`generalizing := false` below: a plain `match`, the hypotheses about `ge`,
    `gk` stay out of it.) -/

theorem game_endLen (r : Replay) (s : Start) (ge : Option End) (hb : r.fend = ge.map (·.bytes)) :
    (match (generalizing := false) ge with | some e => e.bytes.length | none => endSize s.version) = r.endLen s.version := by
  rw [Replay.endLen, hb]
  cases ge <;> rfl

theorem doubled_getD (b : Bool) : (if b then some true else none).getD false = b := by cases b <;> rfl

variable {T : TextOracle} {r : Replay} {s : Start} {gk : Option GeckoBlocks}

theorem payloadSizes_any (h : r.WFAny T s gk) (ge : Option End) (hb : r.fend = ge.map (·.bytes)) :
    payloadSizes (r.gameAny s ge gk) = .ok (canonTableAny s.version r.startBlock.length (r.endLen s.version) gk) := by
  have hall : (canonTableAny s.version r.startBlock.length (r.endLen s.version) gk).all (fun e => decide (e.2 < 65536)) = true :=
    List.all_eq_true.mpr fun e he => by simpa using (canonTableAny_ok h e he).2.2
  have hel := game_endLen r s ge hb
  rw [canonTableAny_flat _ _ _ _ h.gecko30] at hall ⊢
  rw [Replay.gameAny_eq, payloadSizes]
  -- the generated `size` tables agree with the read views (the last clause of `pre_views` … `end_views`), so `viewSize` of them is `rowSize` (`viewSize_eq`)
  simp only [gameStart_bytes T _ s h.start, pre_views.2.2, post_views.2.2, start_views.2, item_views.2, end_views.2, viewSize_eq,
    and_iff_right_of_imp Ver.gte_22_of_30, show (4 + 2 : Nat) = 6 from rfl]
  -- both sides are now the same list up to the two `match`es, on the parsed Game End and on the Gecko block
  cases gk with
  | none =>
    simp only [Option.map_none, ite_self] at hall ⊢
    cases ge with
    | none =>
      -- no Game End was parsed: the end length is the version's (`hel`); with it the `< 65536` check passes (`hall`)
      dsimp only at hel
      simp only [hel]
      simp only [hall, ↓reduceIte]
    | some e =>
      -- a parsed Game End: the end length is that of its block
      dsimp only at hel
      simp only [hel]
      simp only [hall, ↓reduceIte]
  | some g =>
    have h33 := (h.gecko g rfl).1
    have h30 := h.gecko30 g rfl
    have h22 := Ver.gte_22_of_30 h30
    simp only [Option.map_some, h33, h30, h22, and_self, ↓reduceIte] at hall ⊢
    cases ge with
    | none =>
      dsimp only at hel
      simp only [hel]
      simp only [hall, ↓reduceIte]
    | some e =>
      dsimp only at hel
      simp only [hel]
      simp only [hall, ↓reduceIte]

/-! What `raw_size` looks up in the canonical table.  An event code the version does not use is not in the table, so
    `map_or(0, …)` contributes nothing for it: the size of one such event counts as 0. -/
section lookup
variable (v : Ver) (sl el : Nat) (gk : Option GeckoBlocks)

theorem canonTableAny_getStart : getSize (canonTableAny v sl el gk) EV_GAME_START = .ok sl :=
  canonTableAny_cases (P := (getSize · EV_GAME_START = .ok sl)) v sl el gk rfl rfl rfl fun _ _ => rfl

theorem canonTableAny_getEnd : getSize (canonTableAny v sl el gk) EV_GAME_END = .ok el :=
  canonTableAny_cases (P := (getSize · EV_GAME_END = .ok el)) v sl el gk rfl rfl rfl fun _ _ => rfl

theorem canonTableAny_getPre : getSize (canonTableAny v sl el gk) EV_FRAME_PRE = .ok (6 + rowSize v Pre.readPush) :=
  canonTableAny_cases (P := (getSize · EV_FRAME_PRE = .ok (6 + rowSize v Pre.readPush))) v sl el gk rfl rfl rfl fun _ _ => rfl

theorem canonTableAny_getPost : getSize (canonTableAny v sl el gk) EV_FRAME_POST = .ok (6 + rowSize v Post.readPush) :=
  canonTableAny_cases (P := (getSize · EV_FRAME_POST = .ok (6 + rowSize v Post.readPush))) v sl el gk rfl rfl rfl fun _ _ => rfl

variable (hg : ∀ g, gk = some g → v.gte 3 0 = true)
include hg

theorem canonTableAny_optStart (k : Nat) :
    optSize (canonTableAny v sl el gk) EV_FRAME_START k = k * (if v.gte 2 2 then 1 + (4 + rowSize v Start.readPush) else 0) := by
  rw [canonTableAny_flat v sl el gk hg]
  cases v.gte 2 2
  · cases v.gte 3 0 <;> cases gk <;> rfl
  · rfl

theorem canonTableAny_optItem (k : Nat) :
    optSize (canonTableAny v sl el gk) EV_ITEM k = k * (if v.gte 3 0 then 1 + (4 + rowSize v Item.readPush) else 0) := by
  rw [canonTableAny_flat v sl el gk hg]
  cases v.gte 3 0
  · cases v.gte 2 2 <;> cases gk <;> rfl
  · cases v.gte 2 2 <;> rfl

theorem canonTableAny_optEnd (k : Nat) :
    optSize (canonTableAny v sl el gk) EV_FRAME_END k = k * (if v.gte 3 0 then 1 + (4 + rowSize v End.readPush) else 0) := by
  rw [canonTableAny_flat v sl el gk hg]
  cases v.gte 3 0
  · cases v.gte 2 2 <;> cases gk <;> rfl
  · cases v.gte 2 2 <;> rfl

end lookup
end Peppi
