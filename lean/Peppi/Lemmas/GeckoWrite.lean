import Peppi.Lemmas.Gecko
import Peppi.Write
/-! Writer side of the Gecko block: `gecko_codes` re-emits the canonical splitter events. -/
namespace Peppi
open Extracted

/-- canonical blocks: all full except possibly the last, which carries 1..512 bytes -/
def FullBlock (b : Bytes × Nat) : Prop := b.1.length = 512 ∧ b.2 = 512
def LastBlock (b : Bytes × Nat) : Prop := b.1.length = 512 ∧ 1 ≤ b.2 ∧ b.2 ≤ 512

/-- one iteration at a position where a whole 512-byte block `blk` starts -/
theorem writeGecko_step (c : Gecko) (pre blk rest acc : Bytes) (f : Nat) (hb : c.bytes = pre ++ (blk ++ rest))
    (hl : blk.length = 512) (hlt : pre.length < c.actualSize) :
    writeGecko.go c (f + 1) pre.length acc =
      writeGecko.go c f (pre.length + 512)
        (acc ++ encEvent (EV_SPLITTER, splitPayload blk (min 512 (c.actualSize - pre.length)) (decide (c.actualSize ≤ pre.length + 512)))) := by
  rw [writeGecko.go]
  have hlen : ¬ c.bytes.length < pre.length + 512 := by rw [hb]; simp [hl]
  have hblk : (c.bytes.drop pre.length).take 512 = blk := by rw [hb, List.drop_left' rfl, ← hl, List.take_left' rfl]
  simp only [hlt, ↓reduceIte, hlen, hblk]
  simp only [encEvent, splitPayload, List.append_assoc, List.cons_append, List.nil_append, decide_eq_true_eq, ge_iff_le]
  rfl

/-- a block that is not the last: 512 bytes, not final, and the loop goes on behind it -/
theorem writeGecko_full (c : Gecko) (pre blk rest acc : Bytes) (f : Nat) (hb : c.bytes = pre ++ (blk ++ rest))
    (hl : blk.length = 512) (hmore : pre.length + 512 < c.actualSize) :
    writeGecko.go c (f + 1) pre.length acc =
      writeGecko.go c f (pre ++ blk).length (acc ++ encEvent (EV_SPLITTER, splitPayload blk 512 false)) := by
  have hlt : pre.length < c.actualSize := by omega
  have hleft : 512 ≤ c.actualSize - pre.length := by omega
  have hnf : ¬ c.actualSize ≤ pre.length + 512 := Nat.not_le.mpr hmore
  rw [writeGecko_step c pre blk rest acc f hb hl hlt, Nat.min_eq_left hleft, decide_eq_false hnf, List.length_append, hl]

/-- the last block: what is left, final, and the loop stops -/
theorem writeGecko_last (c : Gecko) (pre blk rest acc : Bytes) (f n : Nat) (hb : c.bytes = pre ++ (blk ++ rest))
    (hl : blk.length = 512) (hn : c.actualSize = pre.length + n) (h1 : 1 ≤ n) (h512 : n ≤ 512) :
    writeGecko.go c (f + 1) pre.length acc = .ok (acc ++ encEvent (EV_SPLITTER, splitPayload blk n true)) := by
  have hlt : pre.length < c.actualSize := by omega
  have hleft : c.actualSize - pre.length = n := by omega
  have hfin : c.actualSize ≤ pre.length + 512 := by omega
  rw [writeGecko_step c pre blk rest acc f hb hl hlt, hleft, Nat.min_eq_right h512, decide_eq_true hfin]
  -- the next iteration, if the fuel allows one, finds the position at or past `actual_size` (`hfin`)
  cases f with
  | zero => rfl
  | succ f => rw [writeGecko.go, if_neg (Nat.not_lt.mpr hfin)]

theorem writeGecko_go (c : Gecko) : ∀ (bs : List (Bytes × Nat)) (last : Bytes × Nat) (pre acc : Bytes) (fuel : Nat),
    (∀ b ∈ bs, FullBlock b) → LastBlock last →
    c.bytes = pre ++ catData (bs ++ [last]) → c.actualSize = pre.length + 512 * bs.length + last.2 →
    bs.length + 1 ≤ fuel →
    writeGecko.go c fuel pre.length acc =
      .ok (acc ++ encBlocks bs ++ encEvent (EV_SPLITTER, splitPayload last.1 last.2 true)) := by
  intro bs
  induction bs with
  | nil =>
    intro last pre acc fuel _ ⟨hl, h1, h512⟩ hbytes hact hfuel
    cases fuel with
    | zero => cases hfuel
    | succ f =>
      rw [writeGecko_last c pre last.1 [] acc f last.2 hbytes hl hact h1 h512]
      simp only [encBlocks, List.flatMap_nil, List.append_nil]
  | cons b bs ih =>
    intro last pre acc fuel hfull hlast hbytes hact hfuel
    obtain ⟨hbl, hb2⟩ := hfull b List.mem_cons_self
    cases fuel with
    | zero => cases hfuel
    | succ f =>
      rw [List.cons_append, catData_cons] at hbytes
      rw [List.length_cons] at hact hfuel
      -- `b` is not the last block: more than 512 bytes are left
      have h1 : 1 ≤ last.2 := hlast.2.1
      have hmore : pre.length + 512 < c.actualSize := by omega
      have hfull' : ∀ b' ∈ bs, FullBlock b' := fun b' hb' => hfull b' (List.mem_cons_of_mem _ hb')
      have hbytes' : c.bytes = (pre ++ b.1) ++ catData (bs ++ [last]) := by rw [hbytes, List.append_assoc]
      have hact' : c.actualSize = (pre ++ b.1).length + 512 * bs.length + last.2 := by
        rw [List.length_append, hbl]
        omega
      have hfuel' : bs.length + 1 ≤ f := by omega
      rw [writeGecko_full c pre b.1 (catData (bs ++ [last])) acc f hbytes hbl hmore,
        ih last (pre ++ b.1) _ f hfull' hlast hbytes' hact' hfuel']
      simp only [encBlocks, List.flatMap_cons, List.append_assoc, hb2]

/-- **Gecko block, writer side**: on the reassembled bytes and total size of canonical blocks, `gecko_codes` emits exactly
    the splitter events they came from -/
theorem writeGecko_blocks (bs : List (Bytes × Nat)) (last : Bytes × Nat) (hfull : ∀ b ∈ bs, FullBlock b) (hlast : LastBlock last) :
    writeGecko ⟨catData (bs ++ [last]), sumActual (bs ++ [last])⟩ =
      .ok (encBlocks bs ++ encEvent (EV_SPLITTER, splitPayload last.1 last.2 true)) := by
  have hsum : sumActual (bs ++ [last]) = 512 * bs.length + last.2 := by
    rw [← sum_map_eq_mul bs (·.2) 512 fun b hb => (hfull b hb).2]
    simp [sumActual]
  -- the fuel `actual_size / 512 + 2` covers all blocks
  have hfuel : bs.length + 1 ≤ sumActual (bs ++ [last]) / 512 + 2 := by
    have : bs.length ≤ (512 * bs.length + last.2) / 512 := (Nat.le_div_iff_mul_le (by decide)).mpr (by omega)
    rw [hsum]
    omega
  simpa [writeGecko] using writeGecko_go ⟨catData (bs ++ [last]), sumActual (bs ++ [last])⟩ bs last [] [] _ hfull hlast rfl
    (by simp [hsum]) hfuel

#print axioms writeGecko_blocks
end Peppi
