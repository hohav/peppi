import Peppi.Lemmas.PeppiRead
/-! `.slpp` round trip over the abstract archive (C02 / C10 / C16 / C18, archive level): what `read` makes of the entries that
    `write` emits, once each entry has passed through its external encoder and decoder. -/
namespace Peppi

/-- `u32::to_le_bytes`, in front of `gecko_codes.raw`: the `leU32` of PeppiFmt.lean, which is not imported here -/
def leU32' (n : Nat) : Bytes := (toBE 4 n).reverse

def endEntries {μ φ : Type} : Option Bytes → List (PEntry μ φ)
  | some eb => [.other, .endRaw eb]
  | none => []
def geckoEntries {μ φ : Type} : Option (Bytes × Nat) → List (PEntry μ φ)
  | some c => [.geckoRaw (leU32' c.2 ++ c.1)]
  | none => []
def framesEntries {μ φ : Type} : Option φ → List (PEntry μ φ)
  | some f => [.framesArrow true [.chunk f]]
  | none => []

/-- the entries `write` emits for a game, as the reader sees them after the externals' round trips:
    `peppi.json` decodes to the version verdict, hash and quirks that were written; `metadata.json` to the tree or `null`;
    `start.json` / `end.json` are names the reader does not dispatch on; raw entries are bytes; `frames.arrow`, present only
    when there are frames, decodes to exactly one chunk holding the frames -/
def writtenEntries {μ φ : Type} (g : PGame μ φ) (startBytes : Bytes) (endBytes : Option Bytes) : List (PEntry μ φ) :=
  [.peppiJson (.ok ⟨true, g.hash, g.quirks⟩), .metadataJson (.ok g.metadata), .other, .startRaw startBytes] ++
  (endEntries endBytes ++ (geckoEntries g.gecko ++ framesEntries g.frames))

/-- the little-endian size in front of the Gecko codes reads back: its value, what follows it, and the reader's length check -/
theorem le_roundtrip (n : Nat) (h : n < 2 ^ 32) (rest : Bytes) :
    fromBE (((leU32' n ++ rest).take 4).reverse) = n ∧ (leU32' n ++ rest).drop 4 = rest ∧ ¬ (leU32' n ++ rest).length < 4 := by
  have hl : (leU32' n).length = 4 := by rw [leU32', List.length_reverse, toBE_length]
  refine ⟨?_, List.drop_left' hl, ?_⟩
  · rw [List.take_left' hl, leU32', List.reverse_reverse]
    exact fromBE_toBE 4 n h
  · rw [List.length_append, hl]
    omega

theorem peppiLoop_endEntries {μ φ : Type} (T : TextOracle) (skip t : Bool) (acc : PAcc μ) (endBytes : Option Bytes)
    (fend : Option End) (hend : endBytes.map gameEnd = fend.map Res.ok) (rest : List (PEntry μ φ)) :
    peppiLoop T skip t acc (endEntries endBytes ++ rest) = peppiLoop T skip t { acc with fend := fend.or acc.fend } rest := by
  cases endBytes with
  | none =>
    cases fend with
    | none => rfl
    | some e => cases hend
  | some eb =>
    cases fend with
    | none => cases hend
    | some e =>
      simp only [endEntries, List.cons_append, List.nil_append, peppiLoop, Option.some.inj hend]
      rfl

theorem peppiLoop_geckoEntries {μ φ : Type} (T : TextOracle) (skip t : Bool) (acc : PAcc μ) (gecko : Option (Bytes × Nat))
    (hgecko : ∀ c, gecko = some c → c.2 < 2 ^ 32) (rest : List (PEntry μ φ)) :
    peppiLoop T skip t acc (geckoEntries gecko ++ rest) = peppiLoop T skip t { acc with gecko := gecko.or acc.gecko } rest := by
  cases gecko with
  | none => rfl
  | some c =>
    obtain ⟨h1, h2, h3⟩ := le_roundtrip c.2 (hgecko c rfl) c.1
    simp only [geckoEntries, List.cons_append, List.nil_append, peppiLoop, h3, ↓reduceIte, h1, h2]
    rfl

/-- reading what was written, with or without skip-frames.  The hypotheses recur in every `.slpp` round-trip statement built
    on this one.  `hstart`, `hend`: the raw start and end blocks stored in the archive are the ones the game's start and end
    were parsed from (an end block exactly when the game has an end); `hgecko`: the Gecko size fits the `u32` written in front
    of `gecko_codes.raw`; `hframes`: for a game without frames no `frames.arrow` is written, and the reader accepts that only
    from a complete archive -/
theorem peppiRead_written_any {μ φ : Type} (T : TextOracle) (g : PGame μ φ) (startBytes : Bytes) (endBytes : Option Bytes)
    (skip trailerOk : Bool)
    (hstart : gameStart T startBytes = .ok g.start)
    (hend : endBytes.map gameEnd = g.fend.map Res.ok)
    (hgecko : ∀ c, g.gecko = some c → c.2 < 2 ^ 32)
    (hframes : g.frames = none → trailerOk = true) :
    peppiRead T skip trailerOk (writtenEntries g startBytes endBytes) = .ok { g with frames := if skip then none else g.frames } := by
  unfold peppiRead writtenEntries
  simp only [List.cons_append, List.nil_append, peppiLoop, ↓reduceIte, hstart]
  rw [peppiLoop_endEntries T skip trailerOk _ endBytes g.fend hend, peppiLoop_geckoEntries T skip trailerOk _ g.gecko hgecko]
  simp only [Option.or_none]
  -- every field of the accumulator is the game's; what is left is `frames.arrow`, or the end of the archive
  obtain ⟨start, fend, metadata, gecko, frames, hash, quirks⟩ := g
  cases frames with
  | none => simp only [framesEntries, peppiLoop, hframes rfl, ↓reduceIte, finish]; cases skip <;> rfl
  | some f =>
    simp only [framesEntries, peppiLoop, readArrowFrames, readArrowLoop, finish]
    cases skip <;> rfl

/-- **`.slpp` round trip, archive level**: reading what was written returns the game — start, end, metadata, Gecko codes,
    frames, hash and quirks — under the hypotheses explained at `peppiRead_written_any` -/
theorem peppiRead_written {μ φ : Type} (T : TextOracle) (g : PGame μ φ) (startBytes : Bytes) (endBytes : Option Bytes) (trailerOk : Bool)
    (hstart : gameStart T startBytes = .ok g.start)
    (hend : endBytes.map gameEnd = g.fend.map Res.ok)
    (hgecko : ∀ c, g.gecko = some c → c.2 < 2 ^ 32)
    (hframes : g.frames = none → trailerOk = true) :
    peppiRead T false trailerOk (writtenEntries g startBytes endBytes) = .ok g :=
  peppiRead_written_any T g startBytes endBytes false trailerOk hstart hend hgecko hframes

/-- **C10 (`.slpp`, archive level)**: with skip-frames the same start, end, metadata, Gecko codes, hash and quirks, and the
    empty frame set -/
theorem peppiRead_written_skip {μ φ : Type} (T : TextOracle) (g : PGame μ φ) (startBytes : Bytes) (endBytes : Option Bytes) (trailerOk : Bool)
    (hstart : gameStart T startBytes = .ok g.start)
    (hend : endBytes.map gameEnd = g.fend.map Res.ok)
    (hgecko : ∀ c, g.gecko = some c → c.2 < 2 ^ 32)
    (hframes : g.frames = none → trailerOk = true) :
    peppiRead T true trailerOk (writtenEntries g startBytes endBytes) = .ok { g with frames := none } :=
  peppiRead_written_any T g startBytes endBytes true trailerOk hstart hend hgecko hframes

#print axioms peppiRead_written
end Peppi
