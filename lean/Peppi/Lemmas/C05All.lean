import Peppi.Lemmas.C05
/-! C05: the Game Start / Game End parsers equal the offset specification on every legal block length, in the positional
    form `Rd.AtL` and for `gameStart` / `gameEnd` on the block itself. -/
namespace Peppi

theorem start_at (T : TextOracle) (blk : Bytes) {L : Nat} (hL : L ∈ startLengths) :
    ∃ (w : Nat) (f : Bytes → Res Start), Rd.AtL L (gameStartP T blk) 0 w f ∧ w = L ∧ ∀ b, f b = specStart L T blk b := by
  refine ⟨L, specStart L T blk, Rd.atL_of_eq fun b hb => ?_, rfl, fun _ => rfl⟩
  have h760 : L ≤ 760 := (by decide : ∀ L ∈ startLengths, L ≤ 760) L hL
  -- `gameStartP_spec` leaves the bytes from 760 on, `Rd.AtL L` those from `L` on: of the `L` bytes of `b`, none either way
  have hrest : b.drop 760 = [] := List.drop_eq_nil_of_le (by omega)
  have hrestL : b.drop L = [] := List.drop_eq_nil_of_le (by omega)
  rw [gameStartP_spec T blk b (.inl (hb ▸ hL)), hb, hrest, hrestL]

theorem start_at_320 (T : TextOracle) (blk : Bytes) : ∃ (w : Nat) (f : Bytes → Res Start), Rd.AtL 320 (gameStartP T blk) 0 w f ∧ w = 320 ∧ ∀ b, f b = specStart 320 T blk b := start_at T blk (by decide)
theorem start_at_760 (T : TextOracle) (blk : Bytes) : ∃ (w : Nat) (f : Bytes → Res Start), Rd.AtL 760 (gameStartP T blk) 0 w f ∧ w = 760 ∧ ∀ b, f b = specStart 760 T blk b := start_at T blk (by decide)

theorem start_of_at (L : Nat) (T : TextOracle) (blk b : Bytes) (hb : b.length = L)
    (h : ∃ (w : Nat) (f : Bytes → Res Start), Rd.AtL L (gameStartP T blk) 0 w f ∧ w = L ∧ ∀ b, f b = specStart L T blk b) :
    gameStartP T blk b = match specStart L T blk b with | .ok s => .ok (s, []) | .err e => .err e | .panic p => .panic p := by
  obtain ⟨w, f, hat, rfl, hf⟩ := h
  have h2 := hat b hb (by omega)
  rw [List.drop_zero, Nat.zero_add, List.drop_eq_nil_of_le (by omega), hf] at h2
  rw [h2]
  cases specStart w T blk b <;> rfl

/-- **C05 (Game Start)**: on every legal block length the parser is the offset specification -/
theorem C05_start (T : TextOracle) (b : Bytes) (hL : b.length ∈ startLengths) :
    gameStart T b = match specStart b.length T b b with | .ok s => .ok { s with bytes := b } | .err e => .err e | .panic p => .panic p := by
  unfold gameStart
  rw [gameStartP_spec T b b (.inl hL)]
  cases specStart b.length T b b <;> rfl

#print axioms C05_start

theorem end_at_1 (blk : Bytes) : ∃ (w : Nat) (f : Bytes → Res End), Rd.AtL 1 (gameEndP blk) 0 w f ∧ w = 1 ∧ ∀ b, f b = specEnd 1 blk b := by
  refine ⟨1, specEnd 1 blk, Rd.atL_of_eq fun b hb => ?_, rfl, fun _ => rfl⟩
  -- as in `start_at`, with 6 and 1 for 760 and `L`
  have hrest : b.drop 6 = [] := List.drop_eq_nil_of_le (by omega)
  have hrest1 : b.drop 1 = [] := List.drop_eq_nil_of_le (by omega)
  rw [gameEndP_spec blk b (.inl hb), hb, hrest, hrest1]

/-- **C05 (Game End)**: on each of the three legal lengths the parser is the offset specification -/
theorem C05_end (b : Bytes) (hL : b.length = 1 ∨ b.length = 2 ∨ b.length = 6) :
    gameEnd b = match specEnd b.length b b with | .ok e => .ok { e with bytes := b } | .err e => .err e | .panic p => .panic p := by
  unfold gameEnd
  rw [gameEndP_spec b b (by omega)]
  cases specEnd b.length b b <;> rfl

#print axioms C05_end
end Peppi
