import Peppi.Lemmas.C05All
/-! C05 / C08: a Game Start block *longer* than the newest known layout (a newer recorder) is parsed exactly like its first
    760 bytes. -/
namespace Peppi

/-- **longer Game Start blocks**: every known field has the value it would have without the extra bytes -/
theorem C05_start_long (T : TextOracle) (b : Bytes) (hL : 760 ≤ b.length) :
    gameStart T b = match specStart 760 T b b with | .ok s => .ok { s with bytes := b } | .err e => .err e | .panic p => .panic p := by
  unfold gameStart
  rw [gameStartP_spec T b b (.inr hL), specStart_ge760 T b b hL]
  cases specStart 760 T b b <;> rfl

#print axioms C05_start_long

/-- Game End likewise, against the specification for 6 bytes -/
theorem C05_end_long (b : Bytes) (hL : 6 ≤ b.length) :
    gameEnd b = match specEnd 6 b b with | .ok e => .ok { e with bytes := b } | .err e => .err e | .panic p => .panic p := by
  unfold gameEnd
  rw [gameEndP_spec b b (by omega), specEnd_ge6 b b hL]
  cases specEnd 6 b b <;> rfl

#print axioms C05_end_long
end Peppi
