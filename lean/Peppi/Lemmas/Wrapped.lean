import Peppi.Lemmas.Gecko
import Peppi.Lemmas.Longer
import Peppi.Lemmas.C08
/-! The Message Splitter is a generic container: a final block that names a *frame event* (`isFrameEv`) as its wrapped command
    hands the reassembled bytes to that event's handler.  The zero padding of the payload to 512 bytes is extra trailing
    bytes, which the handlers ignore (`handleEvent_extra`); the `irr` suite exercises this. -/
namespace Peppi
open Extracted

theorem handleSplitter_blockC (st : PState) (data : Bytes) (actual : Nat) (c : Nat) (hc : c < 256) (hd : data.length = 512)
    (ha : actual ≤ 512) (hsum : st.splitActual + actual < 2 ^ 32) :
    handleSplitter (splitPayloadC data actual true c) st =
      .ok (some c, { st with splitRaw := st.splitRaw ++ data, splitActual := st.splitActual + actual }) := by
  simpa [Nat.mod_eq_of_lt hc] using handleSplitter_payload st data actual true c hd ha hsum

/-- **a frame event carried by one final splitter block is handled like the plain event**: the state afterwards is what the
    event's handler makes of the bare payload (with the splitter's size accumulator advanced); the event code returned is
    the wrapped one; 517 bytes of the raw element are consumed -/
theorem parseEvent_wrapped (ps : ParseState) (c : Nat) (p pad rest : Bytes) (st' : PState)
    (hc : isFrameEv c = true) (h512 : (p ++ pad).length = 512)
    (hsz : sizeOfEv ps.st.sizes EV_SPLITTER = some 516) (hraw : ps.st.splitRaw = [])
    (hact : ps.st.splitActual + p.length < 2 ^ 32)
    (hplain : handleEvent { ps.st with splitActual := ps.st.splitActual + p.length } c p = .ok st') :
    parseEvent ps (encEvent (EV_SPLITTER, splitPayloadC (p ++ pad) p.length true c) ++ rest) =
      .ok ((c, { st := st', bytesRead := ps.bytesRead + 516 + 1 }), rest) := by
  have hp : p.length ≤ 512 := by
    rw [← h512, List.length_append]
    exact Nat.le_add_right _ _
  have hext := handleEvent_extra _ st' c p pad hc hplain
  rw [parseEvent_splitter ps (p ++ pad) p.length true c rest (isFrameEv_byte hc) h512 hp hact hsz, hraw]
  simp only [↓reduceIte, List.nil_append]
  -- the accumulator was empty already (`hraw`): emptying it changes nothing
  rw [show ({ ps.st with splitRaw := [], splitActual := ps.st.splitActual + p.length } : PState) =
      { ps.st with splitActual := ps.st.splitActual + p.length } by rw [← hraw], hext]

#print axioms parseEvent_wrapped

/-- **a message of a kind the library does not know, carried by a final splitter block, is skipped**: nothing changes but the
    splitter's accumulators (the reassembly buffer is emptied, the size total advanced), and 517 bytes are counted — per
    block, not per reassembled byte -/
theorem parseEvent_wrapped_unknown (ps : ParseState) (c : Nat) (data rest : Bytes) (actual : Nat)
    (hc : c < 256) (hunk : isKnown c = false) (hd : data.length = 512) (ha : actual ≤ 512)
    (hsz : sizeOfEv ps.st.sizes EV_SPLITTER = some 516) (hact : ps.st.splitActual + actual < 2 ^ 32) :
    parseEvent ps (encEvent (EV_SPLITTER, splitPayloadC data actual true c) ++ rest) =
      .ok ((c, { st := { ps.st with splitRaw := [], splitActual := ps.st.splitActual + actual }, bytesRead := ps.bytesRead + 516 + 1 }), rest) := by
  rw [parseEvent_splitter ps data actual true c rest hc hd ha hact hsz]
  simp only [↓reduceIte, handle_unknown _ c _ hunk]

/-- a non-final block of any message is accumulated and nothing else changes -/
theorem parseEvent_split_any (ps : ParseState) (c : Nat) (data rest : Bytes) (actual : Nat)
    (hd : data.length = 512) (ha : actual ≤ 512)
    (hsz : sizeOfEv ps.st.sizes EV_SPLITTER = some 516) (hact : ps.st.splitActual + actual < 2 ^ 32) :
    ∃ st', parseEvent ps (encEvent (EV_SPLITTER, splitPayloadC data actual false c) ++ rest) =
      .ok ((EV_SPLITTER, { st := st', bytesRead := ps.bytesRead + 516 + 1 }), rest) ∧
      st' = { ps.st with splitRaw := ps.st.splitRaw ++ data, splitActual := ps.st.splitActual + actual } := by
  refine ⟨_, ?_, rfl⟩
  have h := parseEvent_splitter ps data actual false (c % 256) rest (Nat.mod_lt _ (by decide)) hd ha hact hsz
  -- only the low byte of `c` is written
  have hbyte : UInt8.ofNat (c % 256) = UInt8.ofNat c := UInt8.toNat_inj.mp (by simp [UInt8.toNat_ofNat'])
  rwa [show splitPayloadC data actual false (c % 256) = splitPayloadC data actual false c by simp [splitPayloadC, hbyte]] at h

#print axioms parseEvent_wrapped_unknown
#print axioms parseEvent_split_any
end Peppi
