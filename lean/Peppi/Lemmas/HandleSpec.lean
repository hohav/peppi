import Peppi.Lemmas.Wp
import Peppi.Lemmas.ColsExt
/-! What one event may do to the parse state, for arbitrary input: one `wp` walk each through `handleEvent` and `parseEvent`,
    one induction over the loop (`eventLoop_wp`).  C06 (no panic from a state satisfying `StInv`, which is kept) and C12
    (columns only grow, `PState.ctx` is untouched, `bytes_read` counts the bytes) are read off these three. -/
namespace Peppi
open Extracted

/-- what makes every `unwrap` / index / `checked_sub` of `parse_event` safe; static or monotone, for arbitrary input -/
structure StInv (st : PState) : Prop where
  ports : ∀ port pi, st.portIdx.getD port none = some pi → pi < st.frames.ports.length
  endCols : st.frames.fend.isSome → st.frames.itemOff.isSome ∧ st.frames.item.isSome
  offs : ∀ offs items, st.frames.itemOff = some offs → st.frames.item = some items → offs.getLastD 0 ≤ items.length

theorem StInv.congr {st st' : PState} (hp : st'.portIdx = st.portIdx) (hf : st'.frames = st.frames) (h : StInv st) : StInv st' :=
  ⟨hp ▸ hf ▸ h.ports, hf ▸ h.endCols, hf ▸ h.offs⟩

theorem slotOk_noPanic (ports : List PCols) (pi : Nat) (fol : Bool) (h : pi < ports.length) : Res.NoPanic (slotOk ports pi fol) := by
  intro s
  unfold slotOk
  rw [List.getElem?_eq_getElem h]
  dsimp only
  split <;> simp

theorem slotIdx_noPanic (st : PState) (hinv : StInv st) (port : Nat) (fol : Bool) : Res.NoPanic (st.slotIdx port fol) := by
  intro s
  unfold PState.slotIdx
  split
  · simp
  · rename_i pi hp
    exact slotOk_noPanic _ pi fol (hinv.ports port pi hp) s

/-- what `slotIdx` returns has been looked up in the port columns by `slotOk` -/
theorem slotIdx_lt (st : PState) (port : Nat) (fol : Bool) (pi : Nat) (h : st.slotIdx port fol = .ok pi) :
    pi < st.frames.ports.length := by
  unfold PState.slotIdx slotOk at h
  split at h
  · cases h
  · split at h
    · cases h
    · rename_i pc hpc
      split at h
      · cases h
      · cases h
        exact (List.getElem?_eq_some_iff.mp hpc).1

theorem i32At_noPanic (b : Bytes) : Res.NoPanic (i32At b) := by intro s; unfold i32At; split <;> simp
theorem rowOrEof_noPanic (v L b) : Res.NoPanic (rowOrEof v L b) := by intro s; unfold rowOrEof; split <;> simp
theorem expectId_noPanic (st : PState) (id : Int) : Res.NoPanic (st.expectId id) := by
  intro s; unfold PState.expectId; split <;> simp

theorem gameEnd_go_noPanic : ∀ (l : List UInt8) (n : Nat), Res.NoPanic (gameEndP.go n l)
  | [], n => fun s => by simp [gameEndP.go]
  | b :: t, n => Res.noPanic_iff.2 (by simp only [gameEndP.go, wp, Res.wp_noPanic (gameEnd_go_noPanic t (n + 1))])

theorem gameEnd_wp {pn : Prop} (block : Bytes) (Q : End → Prop) :
    Res.wp pn (gameEnd block) Q ↔ Rd.wp pn (gameEndP block) (fun e _ => Q { e with bytes := block }) block := by
  unfold gameEnd Rd.wp
  cases gameEndP block block <;> rfl

theorem gameEnd_noPanic (block : Bytes) : Res.NoPanic (gameEnd block) :=
  Res.noPanic_iff.2 (by simp only [gameEnd_wp, gameEndP, wp, Res.wp_noPanic (gameEnd_go_noPanic _ _)])

#print axioms gameEnd_noPanic

/-- the part of the state `handleEvent` may not touch -/
def PState.ctx (st : PState) := (st.sizes, st.splitRaw, st.splitActual, st.start, st.portIdx)

theorem PState.ctx_portIdx {st st' : PState} (h : st'.ctx = st.ctx) : st'.portIdx = st.portIdx := congrArg (·.2.2.2.2) h

/-- what one event may do to the state: keep `StInv`, append to the columns, leave the context alone -/
def HandleRel (st st' : PState) : Prop := (StInv st → StInv st') ∧ st.frames.Ext st'.frames ∧ st'.ctx = st.ctx

theorem HandleRel.inv {st st' : PState} (h : HandleRel st st') : StInv st → StInv st' := h.1
theorem HandleRel.ext {st st' : PState} (h : HandleRel st st') : st.frames.Ext st'.frames := h.2.1
theorem HandleRel.ctx_eq {st st' : PState} (h : HandleRel st st') : st'.ctx = st.ctx := h.2.2

theorem HandleRel.refl (st : PState) : HandleRel st st := ⟨id, FCols.ext_refl _, rfl⟩

theorem HandleRel.trans {a b c : PState} (h1 : HandleRel a b) (h2 : HandleRel b c) : HandleRel a c :=
  ⟨h2.inv ∘ h1.inv, FCols.ext_trans _ _ _ h1.ext h2.ext, h2.ctx_eq.trans h1.ctx_eq⟩

theorem HandleRel.frames {st st' : PState} (hc : st'.ctx = st.ctx) (hx : st.frames.Ext st'.frames)
    (hl : st'.frames.ports.length = st.frames.ports.length)
    (he : StInv st → st'.frames.fend.isSome → st'.frames.itemOff.isSome ∧ st'.frames.item.isSome)
    (ho : StInv st → ∀ offs items, st'.frames.itemOff = some offs → st'.frames.item = some items → offs.getLastD 0 ≤ items.length) :
    HandleRel st st' := by
  have hp : st'.portIdx = st.portIdx := PState.ctx_portIdx hc
  refine ⟨fun h => ⟨fun port pi hpi => ?_, he h, ho h⟩, hx, hc⟩
  rw [hp] at hpi
  rw [hl]
  exact h.ports port pi hpi

theorem HandleRel.same {st st' : PState} (hc : st'.ctx = st.ctx) (hf : st'.frames = st.frames) : HandleRel st st' :=
  .frames hc (hf ▸ FCols.ext_refl _) (by rw [hf]) (fun h => hf ▸ h.endCols) (fun h => hf ▸ h.offs)

theorem close_len (f : FCols) : f.close.ports.length = f.ports.length := by simp [FCols.close]

theorem HandleRel.close (st : PState) (ids : List Int) (hid : st.frames.id <+: ids) :
    HandleRel st { st with frames := { st.frames.close with id := ids } } :=
  .frames rfl
    (FCols.ext_trans _ _ _ (FCols.ext_close _)
      ⟨hid, portsExt_refl _, optPrefix_refl _, optPrefix_refl _, optPrefix_refl _, optPrefix_refl _⟩)
    (close_len _) (fun h => h.endCols) (fun h => h.offs)

theorem HandleRel.updSlot (st : PState) (pi : Nat) (fol : Bool) (g : DCols → DCols) (hg : ∀ d : DCols, d.Ext (g d)) :
    HandleRel st (st.updSlot pi fol g) :=
  .frames rfl (st.ext_updSlot pi fol g hg) (by simp [PState.updSlot]) (fun h => h.endCols) (fun h => h.offs)

/-- **C06 / C12**, the handler, every event code and buffer -/
theorem handleEvent_spec (st : PState) (code : Nat) (buf : Bytes) :
    Res.wp (¬ StInv st) (handleEvent st code buf) (HandleRel st) := by
  unfold handleEvent
  apply Res.wp_if
  · intro _; trivial
  intro _
  apply Res.wp_if
  · intro _; exact .refl st
  intro _
  apply Res.wp_if
  · intro _; exact .same rfl rfl
  intro _
  apply Res.wp_if
  · intro _; trivial
  intro _
  apply Res.wp_if
  · intro _
    exact Res.wp_then (gameEnd_noPanic buf) fun e => .same rfl rfl
  intro _
  apply Res.wp_if
  · -- Frame Start (closes the previous frame below 3.0)
    intro _
    refine Res.wp_then (i32At_noPanic buf) fun x => ?_
    obtain ⟨id, r⟩ := x
    dsimp only  -- reduces the `match (id, r) with` left by `obtain`, here and in the arms below
    have h1 : HandleRel st (if st.start.version.lt 3 0 = true then { st with frames := st.frames.close } else st) := by
      split
      · exact .close st _ (List.prefix_refl _)
      · exact .refl st
    generalize (if st.start.version.lt 3 0 = true then { st with frames := st.frames.close } else st) = st1 at h1
    split
    · trivial
    · rename_i sc hsc
      refine Res.wp_then (rowOrEof_noPanic _ _ _) fun row => ?_
      have hstart : OptExt List.IsPrefix st1.frames.start (some (sc ++ [some row])) := by
        rw [hsc]
        exact List.prefix_append _ _
      have hext : st1.frames.Ext { st1.frames with id := st1.frames.id ++ [id], start := some (sc ++ [some row]) } :=
        ⟨List.prefix_append _ _, portsExt_refl _, hstart, optPrefix_refl _, optPrefix_refl _, optPrefix_refl _⟩
      exact h1.trans (.frames rfl hext rfl (fun h => h.endCols) (fun h => h.offs))
  intro _
  apply Res.wp_if
  · -- pre-frame (opens a new frame below 2.2); `st2` is `st`, or `st` with the frame closed and the id pushed
    intro _
    refine Res.wp_then (i32At_noPanic buf) fun x => ?_
    obtain ⟨id, r⟩ := x
    dsimp only
    apply Res.wp_if
    · intro _; trivial
    intro _
    refine Res.wp_seq (Res.wp_np fun h => slotIdx_noPanic st h _ _) fun _ _ _ => ?_
    refine Res.wp_seq (R := HandleRel st) ?_ fun st2 _ h2 => ?_
    · apply Res.wp_if
      · intro _
        exact Res.wp_then (expectId_noPanic st id) fun _ => .refl st
      · intro _
        apply Res.wp_if
        · intro _; exact .close st _ (List.prefix_append _ _)
        · intro _
          exact Res.wp_then (expectId_noPanic st id) fun _ => .refl st
    refine Res.wp_seq (Res.wp_np fun h => slotIdx_noPanic st2 (h2.inv h) _ _) fun pi _ _ => ?_
    refine Res.wp_then (rowOrEof_noPanic _ _ _) fun row => ?_
    exact h2.trans (.updSlot st2 pi _ _ fun d => DCols.ext_pushPre d row)
  intro _
  apply Res.wp_if
  · -- post-frame
    intro _
    refine Res.wp_then (i32At_noPanic buf) fun x => ?_
    obtain ⟨id, r⟩ := x
    dsimp only
    apply Res.wp_if
    · intro _; trivial
    intro _
    refine Res.wp_then (expectId_noPanic st id) fun _ => ?_
    refine Res.wp_seq (Res.wp_np fun h => slotIdx_noPanic st h _ _) fun pi _ _ => ?_
    refine Res.wp_then (rowOrEof_noPanic _ _ _) fun row => ?_
    exact .updSlot st pi _ _ fun d => DCols.ext_pushPost d row
  intro _
  apply Res.wp_if
  · -- Frame End: the two panics (`checked_sub`, `unwrap` of the item offsets) are what `StInv.offs` / `.endCols` exclude
    intro _
    refine Res.wp_then (i32At_noPanic buf) fun x => ?_
    obtain ⟨id, r⟩ := x
    dsimp only
    split
    · trivial
    · rename_i ec hec
      refine Res.wp_then (expectId_noPanic st id) fun _ => ?_
      split
      · rename_i offs items ho hi
        apply Res.wp_if
        · intro hlt hinv
          have := hinv.offs offs items ho hi
          omega
        intro _
        refine Res.wp_then (rowOrEof_noPanic _ _ _) fun row => ?_
        -- first the row and the item offset are appended, then the frame is closed
        have hrow : HandleRel st { st with frames :=
            { st.frames with itemOff := some (offs ++ [items.length]), fend := some (ec ++ [some row]) } } := by
          refine .frames rfl ?ext rfl ?endCols ?offs
          case ext =>
            have hfend : OptExt List.IsPrefix st.frames.fend (some (ec ++ [some row])) := by
              rw [hec]
              exact List.prefix_append _ _
            have hoff : OptExt List.IsPrefix st.frames.itemOff (some (offs ++ [items.length])) := by
              rw [ho]
              exact List.prefix_append _ _
            exact ⟨List.prefix_refl _, portsExt_refl _, optPrefix_refl _, hfend, hoff, optPrefix_refl _⟩
          case endCols =>
            intro _ _
            simp [hi]
          case offs =>
            -- the offset appended is the length of the item column
            intro _ offs' items' ho' hi'
            simp only [Option.some.injEq] at ho'
            subst ho'
            rw [hi] at hi'
            cases hi'
            simp
        exact hrow.trans (.close _ _ (List.prefix_refl _))
      · rename_i hno
        intro hinv
        have := hinv.endCols (by simp [hec])
        cases ho : st.frames.itemOff with
        | none => simp [ho] at this
        | some o =>
          cases hi : st.frames.item with
          | none => simp [hi] at this
          | some i => exact hno o i ho hi
  intro _
  apply Res.wp_if
  · -- item
    intro _
    refine Res.wp_then (i32At_noPanic buf) fun x => ?_
    obtain ⟨id, r⟩ := x
    dsimp only
    split
    · trivial
    · rename_i items hi
      refine Res.wp_then (expectId_noPanic st id) fun _ => ?_
      refine Res.wp_then (rowOrEof_noPanic _ _ _) fun row => ?_
      have hitem : OptExt List.IsPrefix st.frames.item (some (items ++ [some row])) := by
        rw [hi]
        exact List.prefix_append _ _
      have hext : st.frames.Ext { st.frames with item := some (items ++ [some row]) } :=
        ⟨List.prefix_refl _, portsExt_refl _, optPrefix_refl _, optPrefix_refl _, optPrefix_refl _, hitem⟩
      refine .frames rfl hext rfl ?endCols ?offs
      case endCols =>
        intro h hf
        have := h.endCols hf
        simpa using this.1
      case offs =>
        -- the offsets are as before and the item column has grown
        intro h offs' items' ho' hi'
        simp only [Option.some.injEq] at hi'
        subst hi'
        have := h.offs offs' items ho' hi
        simp only [List.length_append, List.length_cons, List.length_nil]
        omega
  intro _
  exact .refl st

theorem handleEvent_ctx (st st' : PState) (code : Nat) (buf : Bytes) (h : handleEvent st code buf = .ok st') :
    st'.ctx = st.ctx :=
  (Res.wp_elim (handleEvent_spec st code buf) h).ctx_eq

theorem handleSplitter_spec {pn : Prop} (buf : Bytes) (st : PState) :
    Res.wp pn (handleSplitter buf st) fun r => r.2.portIdx = st.portIdx ∧ r.2.frames = st.frames := by
  simp only [handleSplitter, wp]

/-- **C06 / C12**, one `parse_event` call, every input; the last clause: `bytes_read` has advanced by exactly the bytes it took -/
theorem parseEvent_spec (ps : ParseState) (bs : Bytes) :
    Rd.wp (¬ StInv ps.st) (parseEvent ps)
      (fun r rest => (StInv ps.st → StInv r.2.st) ∧ ps.st.frames.Ext r.2.st.frames ∧
        r.2.bytesRead + rest.length = ps.bytesRead + bs.length) bs := by
  -- the handler, run from any state `st1` with the port map and the columns of `ps.st`; `C` is the caller's byte count,
  -- only handed through to the postcondition
  have he (st1 : PState) (hp : st1.portIdx = ps.st.portIdx) (hf : st1.frames = ps.st.frames) {code buf} {C : Prop} (hC : C) :
      Res.wp (¬ StInv ps.st) (handleEvent st1 code buf)
        fun st' => (StInv ps.st → StInv st') ∧ ps.st.frames.Ext st'.frames ∧ C := by
    have h1 : StInv ps.st → StInv st1 := StInv.congr hp hf
    refine Res.wp_imp (Res.wp_mono (handleEvent_spec st1 code buf) fun st' _ h => ?_) fun h hi => h (h1 hi)
    exact ⟨h.inv ∘ h1, hf ▸ h.ext, hC⟩
  simp only [parseEvent, wp]
  intro b t hbs
  subst hbs
  split
  · trivial
  · rename_i size _
    simp only [wp]
    intro hl
    have key : ps.bytesRead + size + 1 + (t.drop size).length = ps.bytesRead + (b :: t).length := by
      simp only [List.length_drop, List.length_cons]
      omega
    refine ⟨fun _ => ?splitter, fun _ => ?other⟩
    case splitter =>
      -- `handleSplitter` adds the piece to the accumulator and leaves the port map and the columns alone
      refine Res.wp_mono (handleSplitter_spec _ _) fun a _ ha => ?_
      obtain ⟨w, st1⟩ := a
      obtain ⟨hp1, hf1⟩ := ha
      cases w with
      | some wrapped =>
        -- the wrapped event is complete: the handler is given it, and the accumulator is emptied
        simp only [wp]
        exact he { st1 with splitRaw := [] } hp1 hf1 key
      | none =>
        -- not yet complete: the handler is given the splitter event itself
        simp only [wp]
        exact he st1 hp1 hf1 key
    case other =>
      -- any other event goes to the handler as it is
      exact he ps.st rfl rfl key

theorem eventLoop_succ (fuel rawLen : Nat) (ps : ParseState) (bs : Bytes) :
    eventLoop (fuel + 1) rawLen ps bs =
      if rawLen = 0 ∨ ps.bytesRead < rawLen then
        match parseEvent ps bs with
        | .ok ((code, ps'), rest) => if code = EV_GAME_END then .ok (ps', rest) else eventLoop fuel rawLen ps' rest
        | .err e => .err e
        | .panic p => .panic p
      else .ok (ps, bs) := rfl

/-- the loop with a fixed fuel, as a parser -/
def evL (fuel rawLen : Nat) (ps : ParseState) : Rd ParseState := fun bs => eventLoop fuel rawLen ps bs

theorem evL_succ (fuel rawLen : Nat) (ps : ParseState) :
    evL (fuel+1) rawLen ps =
      if rawLen = 0 ∨ ps.bytesRead < rawLen then
        (parseEvent ps >>= fun r => if r.1 = EV_GAME_END then pure r.2 else evL fuel rawLen r.2)
      else pure ps := by
  funext bs
  rw [evL, eventLoop_succ]
  split
  · rw [Rd.bind_def]
    rcases parseEvent ps bs with ⟨⟨code, ps'⟩, rest⟩ | e | p
    · dsimp only
      split <;> rfl
    · rfl
    · rfl
  · rfl

/-- the loop rule: what every `parse_event` call keeps, the loop keeps (`I` may mention the bytes still unread) -/
theorem eventLoop_wp {pn : Prop} (I : ParseState → Bytes → Prop)
    (hstep : ∀ ps bs, I ps bs → Rd.wp pn (parseEvent ps) (fun r rest => I r.2 rest) bs) :
    ∀ (fuel rawLen : Nat) (ps : ParseState) (bs : Bytes), I ps bs →
      Res.wp pn (eventLoop fuel rawLen ps bs) fun r => I r.1 r.2 := by
  intro fuel
  induction fuel with
  | zero => intro _ _ _ _; trivial
  | succ n ih =>
    intro rawLen ps bs hI
    show Rd.wp pn (evL (n + 1) rawLen ps) I bs
    simp only [evL_succ, wp]
    -- the `raw` element is not at its end (or its length is unknown, `rawLen = 0`): one `parse_event` call, which by `hstep`
    -- returns a state `r.2` with `h : I r.2 rest`
    refine ⟨fun _ => Rd.wp_mono (hstep ps bs hI) fun r rest _ h => ⟨?_, ?_⟩, ?_⟩
    · -- Game End: the loop returns that state
      exact fun _ => h
    · -- any other event: the loop goes on from that state with the fuel that is left
      exact fun _ => ih rawLen r.2 rest h
    · -- `rawLen` bytes have been read: the loop returns the state it was entered with
      exact fun _ => hI

end Peppi
