import Peppi.Lemmas.NoPanic
/-! C19: a player's name tag is the decoder's verdict on the slice of its 16-byte field up to the first NUL, nothing else. -/
namespace Peppi
open Extracted

theorem meleeField_ok (T : TextOracle) (b s : Bytes) (h : meleeField T b = .ok s) : s = untilNul b ∧ T.sjisOk (untilNul b) = true :=
  (meleeField_safe T b).2 s h

/-- the name tag of an accepted player is the slice of its field up to the first NUL, and the decoder accepted that slice -/
theorem player_nameTag (T : TextOracle) (port : Nat) (v0 : Bytes) (isTeams : Bool) (v1_0 : Option Bytes) (b : Bytes)
    (n c v3_11 : Option Bytes) :
    Res.Post (fun o => ∀ p, o = some p → p.nameTag = some (untilNul b) ∧ T.sjisOk (untilNul b) = true)
      (player T port v0 isTeams v1_0 (some b) n c v3_11) := by
  intro o ho p hp
  obtain ⟨-, htag⟩ := (player_safe T port v0 isTeams v1_0 (some b) n c v3_11).2 o ho p hp
  exact htag b rfl

/-- **C19 (slices)**: in a full-length start block the name tag of the player on port `n` is the slice of bytes
    `[352 + 16 n, 368 + 16 n)` up to its first NUL — bytes after the NUL and bytes of other fields cannot influence it -/
theorem C19_nameTag_slice (T : TextOracle) (b : Bytes) (n : Nat) (hn : n < 4) (p : Player)
    (h : player T n (((List.range MAX_PLAYERS).map fun i => (b.drop (100 + 36 * i)).take 36).getD n []) ((b.getD 12 0).toNat != 0)
          (some ((b.drop (320 + 8 * n)).take 8)) (some ((b.drop (352 + 16 * n)).take 16))
          (some ((b.drop (420 + 31 * n)).take 31)) (some ((b.drop (544 + 10 * n)).take 10)) (some ((b.drop (584 + 29 * n)).take 29))
        = .ok (some p)) :
    p.nameTag = some (untilNul ((b.drop (352 + 16 * n)).take 16)) :=
  (player_nameTag T n _ _ _ _ _ _ _ (some p) h p rfl).1

#print axioms C19_nameTag_slice
end Peppi
