import Peppi.Lemmas.C12
import Peppi.Lemmas.GenFile
/-! The port-number → slot map that `parse_start` builds is correct for every accepted start block
    (discharges the `portMap` / `ports` hypotheses of `Replay.WF`). -/
namespace Peppi
open Extracted

/-- a player record carries the port number it was parsed for -/
theorem player_port (T : TextOracle) (port : Nat) (v0 : Bytes) (isTeams : Bool) (v1_0 v1_3 n c v3_11 : Option Bytes) :
    Res.Post (fun o => ∀ p, o = some p → p.port = port) (player T port v0 isTeams v1_0 v1_3 n c v3_11) := by
  intro o ho p hp
  obtain ⟨_, hpost⟩ := player_safe T port v0 isTeams v1_0 v1_3 n c v3_11
  obtain ⟨hport, _⟩ := hpost o ho p hp
  exact hport

theorem collectPlayers_cons (r : Res (Option Player)) (rs : List (Res (Option Player))) :
    collectPlayers (r :: rs) = (r >>= fun o => collectPlayers rs >>= fun rest => pure (match o with | some p => p :: rest | none => rest)) := rfl

theorem collectPlayers_ports (f : Nat → Res (Option Player)) (hf : ∀ n, Res.Post (fun o => ∀ p, o = some p → p.port = n) (f n)) :
    ∀ (ns : List Nat) (ps : List Player), collectPlayers (ns.map f) = .ok ps → (ps.map (·.port)).Sublist ns :=
  fun ns _ h => Res.wp_elim (collectPlayers_wp (pn := True) f (fun n => Res.wp_of_ok (hf n)) ns) h

/-- distinct, small port numbers make the `findIdx?` table correct -/
theorem portMap_of_sublist (shape : List PortOccupancy) (h : (shape.map (·.port)).Sublist (List.range 4)) :
    PortMapOK (portIdxOf shape) shape ∧ ∀ p ∈ shape, p.port < 256 := by
  have hnd : (shape.map (·.port)).Nodup := h.nodup List.nodup_range
  have hlt : ∀ p ∈ shape, p.port < 4 := by
    intro p hp
    have := h.subset (List.mem_map.mpr ⟨p, hp, rfl⟩)
    simpa using this
  refine ⟨?_, fun p hp => by have := hlt p hp; omega⟩
  intro pi hpi
  have hport := hlt shape[pi] (List.getElem_mem hpi)
  simp only [portIdxOf, List.getD_eq_getElem?_getD, List.getElem?_map, List.getElem?_range hport, Option.map_some, Option.getD_some]
  rw [List.findIdx?_eq_some_iff_getElem]
  refine ⟨hpi, by simp, ?_⟩
  intro j hj
  have hpw := List.pairwise_iff_getElem.mp (List.nodup_iff_pairwise_ne.mp hnd) j pi (by simp; omega) (by simpa using hpi) hj
  simp only [List.getElem_map] at hpw
  simpa using hpw

theorem gameStartP_ports (T : TextOracle) (blk : Bytes) :
    Rd.Post (fun s => (s.players.map (·.port)).Sublist (List.range 4)) (gameStartP T blk) :=
  Rd.post_of_wp (gameStartP_safe T blk)

/-- **for every accepted start block** the port map and port bounds hold -/
theorem portMap_of_gameStart (T : TextOracle) (b : Bytes) (s : Start) (h : gameStart T b = .ok s) :
    PortMapOK (portIdxOf (portOccupancy s)) (portOccupancy s) ∧ ∀ p ∈ portOccupancy s, p.port < 256 := by
  apply portMap_of_sublist
  -- the parser inside `game_start` only returns players at ports 0..3, in order
  have hsafe := gameStartP_safe T b b
  have hwp : Res.wp False (gameStart T b) fun s => (s.players.map (·.port)).Sublist (List.range 4) :=
    (gameStart_wp T b _).mpr hsafe
  have hw := Res.wp_elim hwp h
  simpa only [portOccupancy, List.map_map, Function.comp_def] using hw

#print axioms portMap_of_gameStart
end Peppi
