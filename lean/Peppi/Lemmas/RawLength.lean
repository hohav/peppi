import Peppi.Lemmas.WriteAny
/-! The length of the raw element of a history from counts alone, so that `WFAny.rawLen` can be checked without building the
    bytes. -/
namespace Peppi
open Extracted

/-- length of the raw element without its start block: counts times the version's row sizes (`canonEventsAny_length`); 30, 24,
    18, 15 are the Payloads event (2 bytes and 3 per entry, for 9, 7, 5, 4 entries) and the code of Game Start -/
def Replay.rawCount (r : Replay) (v : Ver) (gk : Option GeckoBlocks) : Nat :=
  let n := r.frames.length
  let c := (r.frames.map fun o => countSome o.chars).sum
  let start := n * (1 + (4 + rowSize v Start.readPush))
  let chars := c * (1 + (6 + rowSize v Pre.readPush)) + c * (1 + (6 + rowSize v Post.readPush))
  let a := start + chars + (r.frames.flatMap (·.items)).length * (1 + (4 + rowSize v Item.readPush)) + n * (1 + (4 + rowSize v End.readPush))
  (encEvents r.endEvents).length +
    match gk with
    | some g => 30 + 517 * (g.init.length + 1) + a
    | none => if v.gte 3 0 then 24 + a else if v.gte 2 2 then 18 + (start + chars) else 15 + chars

theorem Replay.rawAny_count (r : Replay) (v : Ver) (shape : List PortOccupancy) (gk : Option GeckoBlocks)
    (hok : ∀ o ∈ r.frames, o.OK v (nSlots shape))
    (hg : ∀ g, gk = some g → v.gte 3 0 = true ∧ (∀ b ∈ g.init, FullBlock b) ∧ LastBlock g.last) :
    (r.rawAny v shape gk).length = r.startBlock.length + r.rawCount v gk := by
  have hg30 : ∀ g, gk = some g → v.gte 3 0 = true := fun g h => (hg g h).1
  rw [r.rawAny_length v shape gk hg30, canonEventsAny_length v shape _ hok, canonTableAny_flat _ _ _ _ hg30]
  unfold Replay.rawCount
  cases gk with
  | some g =>
    have h30 := hg30 g rfl
    simp only [h30, Ver.gte_22_of_30 h30, ↓reduceIte, Option.map_some, Option.getD_some, g.enc_length (hg g rfl).2.1 (hg g rfl).2.2,
      List.length_append, List.length_cons, List.length_nil]
    omega
  | none =>
    cases h30 : v.gte 3 0 with
    | true =>
      simp only [Ver.gte_22_of_30 h30, ↓reduceIte, Option.map_none, Option.getD_none, List.length_append, List.length_cons, List.length_nil]
      omega
    | false =>
      cases h22 : v.gte 2 2 <;>
        simp only [Bool.false_eq_true, ↓reduceIte, Option.map_none, Option.getD_none, List.length_append, List.length_cons, List.length_nil] <;>
        omega

end Peppi
