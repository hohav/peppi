import Peppi.Lemmas.Tables
import Peppi.Write
import Peppi.Premises
/-! Writer side, per character slot: `Data::write_pre/post` on the expected columns; then one pass over all ports. -/
namespace Peppi
open Extracted

theorem validAt_validOf (hist : List (Option CharOcc)) (idx : Nat) (h : idx < hist.length) :
    validAt (validOf hist) idx = .ok (hist[idx]).isSome := by
  unfold validAt validOf
  by_cases hall : hist.all Option.isSome = true
  · simp only [hall, ↓reduceIte]
    have := (List.all_eq_true.mp hall) hist[idx] (List.getElem_mem _)
    simp [this]
  · simp only [hall, Bool.false_eq_true, ↓reduceIte, List.getElem?_map, List.getElem?_eq_getElem h, Option.map_some]

theorem rowAt_some (v : Ver) (L : List Fld) (c : SCols) (idx : Nat) (row : Row) (h : c[idx]? = some (some row)) :
    rowAt v L c idx = .ok (writeRow v L row) := by
  simp [rowAt, h]

/-- what one character contributes to the pre (or post) pass of a frame -/
def slotOut (post : Bool) (v : Ver) (id : Int) (port : Nat) (fol : Bool) (occ : Option CharOcc) : Bytes :=
  match occ with
  | some x => if post then encEvent (EV_FRAME_POST, encChar v Post.readPush id port fol x.post)
              else encEvent (EV_FRAME_PRE, encChar v Pre.readPush id port fol x.pre)
  | none => []

theorem writeData_cols (post : Bool) (v : Ver) (hist : List (Option CharOcc)) (idx : Nat) (h : idx < hist.length)
    (id : Int) (port : Nat) (fol : Bool) :
    writeData v (colsOf hist) post idx id port fol = .ok (slotOut post v id port fol hist[idx]) := by
  unfold writeData
  simp only [bind, validAt_validOf hist idx h, colsOf]
  cases hocc : hist[idx] with
  | none => rfl
  | some x =>
    have hpre : (hist.map (·.map (·.pre)))[idx]? = some (some x.pre) := by simp [List.getElem?_eq_getElem h, hocc]
    have hpost : (hist.map (·.map (·.post)))[idx]? = some (some x.post) := by simp [List.getElem?_eq_getElem h, hocc]
    have c7 : (UInt8.ofNat EV_FRAME_PRE) = 0x37 := by decide
    have c8 : (UInt8.ofNat EV_FRAME_POST) = 0x38 := by decide
    cases post <;>
      simp only [Option.isSome_some, ↓reduceIte, Bool.false_eq_true, slotOut, rowAt_some _ _ _ _ _ hpre, rowAt_some _ _ _ _ _ hpost,
        pure, encEvent, encChar, encId, c7, c8, pre_views.1, post_views.1, List.cons_append, List.nil_append, List.append_assoc]

#print axioms writeData_cols
/-- one pass (pre or post) over all ports, as the writer emits it -/
def passOut (post : Bool) (v : Ver) (id : Int) : List PortOccupancy → Nat → (Nat → Option CharOcc) → Bytes
  | [], _, _ => []
  | p :: ps, k, occ =>
    slotOut post v id p.port false (occ k) ++
      ((if p.follower then slotOut post v id p.port true (occ (k+1)) else []) ++
        passOut post v id ps (k + (if p.follower then 2 else 1)) occ)

theorem concatRes_cons (a : Res Bytes) (l : List (Res Bytes)) :
    concatRes (a :: l) = (do let x ← a; let y ← concatRes l; pure (x ++ y)) := rfl

theorem writePort_noF (post : Bool) (v : Ver) (id : Int) (idx port : Nat) (h0 : List (Option CharOcc)) (hl0 : idx < h0.length) :
    writePort v ⟨port, colsOf h0, none⟩ post idx id = .ok (slotOut post v id port false h0[idx]) := by
  simp [writePort, bind, writeData_cols post v h0 idx hl0, pure]

theorem writePort_F (post : Bool) (v : Ver) (id : Int) (idx port : Nat) (h0 h1 : List (Option CharOcc))
    (hl0 : idx < h0.length) (hl1 : idx < h1.length) :
    writePort v ⟨port, colsOf h0, some (colsOf h1)⟩ post idx id =
      .ok (slotOut post v id port false h0[idx] ++ slotOut post v id port true h1[idx]) := by
  simp only [writePort, bind, writeData_cols post v h0 idx hl0, pure,
    show (colsOf h1).valid = validOf h1 from rfl, validAt_validOf h1 idx hl1]
  cases hocc : h1[idx] with
  | none => simp [slotOut]
  | some x => simp [writeData_cols post v h1 idx hl1, hocc]

/-- `PortData::write_pre/post` over the expected ports of a history -/
theorem writePorts_cols (post : Bool) (v : Ver) (id : Int) (idx : Nat) (hists : Nat → List (Option CharOcc))
    (hlen : ∀ c, idx < (hists c).length) (shape : List PortOccupancy) :
    ∀ k, concatRes ((rebuild shape ((List.range' k (slotList shape 0).length).map fun c => colsOf (hists c))).map
        fun p => writePort v p post idx id) =
      .ok (passOut post v id shape k fun c => (hists c)[idx]'(hlen c)) := by
  induction shape with
  | nil => intro k; simp [rebuild, concatRes, passOut, pure]
  | cons p ps ih =>
    intro k
    have hsl : ∀ pi0, (slotList ps pi0).length = (slotList ps 0).length := by
      intro pi0; rw [slotList_length, slotList_length]
    cases hf : p.follower with
    | false =>
      have hn : (slotList (p :: ps) 0).length = (slotList ps 0).length + 1 := by
        simp [slotList, hf, hsl 1]
      rw [hn, List.range'_succ]
      simp only [List.map_cons, rebuild, hf, Bool.false_eq_true, ↓reduceIte, List.headD_cons, List.drop_succ_cons, List.drop_zero,
        concatRes_cons, writePort_noF post v id idx p.port (hists k) (hlen k), bind, pure]
      rw [ih (k+1)]
      simp [passOut, hf]
    | true =>
      have hn : (slotList (p :: ps) 0).length = (slotList ps 0).length + 1 + 1 := by
        simp [slotList, hf, hsl 1]
      rw [hn, List.range'_succ, List.range'_succ]
      simp only [List.map_cons, rebuild, hf, ↓reduceIte, List.headD_cons, List.drop_succ_cons, List.drop_zero,
        concatRes_cons, writePort_F post v id idx p.port (hists k) (hists (k+1)) (hlen k) (hlen (k+1)), bind, pure]
      rw [show k + 1 + 1 = k + 2 from rfl, ih (k+2)]
      simp [passOut, hf]

#print axioms writePorts_cols
/-- one pass over a list of slot descriptors -/
def slOut (post : Bool) (v : Ver) (id : Int) : List (Nat × Bool × Nat) → Nat → (Nat → Option CharOcc) → Bytes
  | [], _, _ => []
  | d :: ds, k, occ => slotOut post v id d.2.2 d.2.1 (occ k) ++ slOut post v id ds (k+1) occ

theorem slOut_append (post v id) (a b : List (Nat × Bool × Nat)) (k : Nat) (occ) :
    slOut post v id (a ++ b) k occ = slOut post v id a k occ ++ slOut post v id b (k + a.length) occ := by
  induction a generalizing k with
  | nil => simp [slOut]
  | cons d ds ih => simp only [List.cons_append, slOut, ih (k+1), List.append_assoc, List.length_cons]; congr 3; omega

theorem passOut_eq_slOut (post v id) (shape : List PortOccupancy) (pi0 k : Nat) (occ) :
    passOut post v id shape k occ = slOut post v id (slotList shape pi0) k occ := by
  induction shape generalizing pi0 k with
  | nil => rfl
  | cons p ps ih =>
    simp only [passOut, slotList, slOut]
    cases hf : p.follower with
    | false => simp [ih (pi0+1) (k+1)]
    | true => simp [slOut, ih (pi0+1) (k+2)]

/-- `pre`: the slots in front of `ds` in the slot list (what the induction generalises over) -/
theorem slOut_eq_charEvents (post : Bool) (v : Ver) (id : Int) (occ : Nat → Option CharOcc) (ds pre : List (Nat × Bool × Nat)) :
    slOut post v id ds pre.length occ =
      encEvents (charEvents post v id (pre ++ ds) (presentFrom pre.length ((List.range' pre.length ds.length).map occ))) := by
  induction ds generalizing pre with
  | nil => rfl
  | cons d ds ih =>
    have htail := ih (pre ++ [d])
    rw [List.length_append, List.length_singleton, List.append_assoc, List.singleton_append] at htail
    rw [slOut, htail, List.length_cons, List.range'_succ, List.map_cons]
    cases occ pre.length with
    | none => rfl
    | some x =>
      unfold charEvents
      rw [presentFrom, List.map_cons, encEvents_cons, charEvent, List.getElem?_append_right (Nat.le_refl _),
        Nat.sub_self, List.getElem?_cons_zero]
      cases post <;> rfl

theorem map_range_join {α β} (l : List (Option α)) (g : Option α → β) :
    (List.range l.length).map (fun c => g (l[c]?).join) = l.map g := by
  apply List.ext_getElem (by simp)
  intro c h1 _
  rw [List.length_map, List.length_range] at h1
  simp [h1]

theorem pass_eq_events (post : Bool) (v : Ver) (id : Int) (shape : List PortOccupancy) (chars : List (Option CharOcc))
    (hn : chars.length = nSlots shape) :
    passOut post v id shape 0 (fun c => (chars[c]?).join) = encEvents (charEvents post v id (slotList shape 0) (presentFrom 0 chars)) := by
  have hchars : (List.range' 0 (slotList shape 0).length).map (fun c => (chars[c]?).join) = chars := by
    rw [← nSlots, ← hn, ← List.range_eq_range', map_range_join chars fun a => a, List.map_id']
  have := slOut_eq_charEvents post v id (fun c => (chars[c]?).join) (slotList shape 0) []
  rwa [List.nil_append, List.length_nil, hchars, ← passOut_eq_slOut post v id shape 0 0] at this

#print axioms pass_eq_events
end Peppi
