import Peppi.Lemmas.Longer
import Peppi.Lemmas.GeckoU
import Peppi.Lemmas.Tables
import Peppi.Lemmas.PortMap
/-! `readP_gen` for the file of a history (`readP_replay`), and from it the read theorem for **every** framing regime at once
    (`readP_irregular`): the recorder's frame events in any admissible order (`CanonUpToOrder`), possibly with longer payloads,
    with declared unknown events spliced in anywhere after Game Start, and arbitrary extra bytes after Game End. -/
namespace Peppi
open Extracted

theorem canonEventsAny_sizes {T : TextOracle} {r : Replay} {s : Start} {gk : Option GeckoBlocks} (h : r.WFAny T s gk) (sl el : Nat) :
    ∀ e ∈ canonEventsAny s.version (portOccupancy s) r.frames, isFrameEv e.1 = true ∧
      (e.1, e.2.length) ∈ canonTableAny s.version sl el gk := by
  intro e he
  rw [canonEventsAny_eq] at he
  obtain ⟨o, ho, heo⟩ := List.mem_flatMap.mp he
  rw [canonTableAny_flat _ _ _ _ h.gecko30]
  -- five goals: the entries the gates ask for are in the flat table (Pre, Post; Frame Start from 2.2; Item and Frame End from 3.0)
  refine frameEventsIf_declared _ _ (h.frames o ho) ?_ ?_ (fun h22 => ?_) (fun h30 => ?_) (fun h30 => ?_) e heo <;>
    simp only [*, ↓reduceIte, List.mem_append, List.mem_cons, true_or, or_true]

/-- `frames_A`, `frames_open_B`, `frames_open_C` in one statement; `st` is the state after `parse_start` or after the Gecko
    block; below 3.0 the last frame stays open, hence `close` -/
theorem canonEventsAny_run {T : TextOracle} {r : Replay} {s : Start} {gk : Option GeckoBlocks} (h : r.WFAny T s gk) (st : PState)
    (hst : st.start = s) (hfr : st.frames = FCols.new s.version (portOccupancy s)) (hpi : st.portIdx = portIdxOf (portOccupancy s)) :
    ∃ f, runEvents st (canonEventsAny s.version (portOccupancy s) r.frames) = .ok { st with frames := f } ∧
      (if s.version.lt 3 0 then f.close else f) = expFrames s.version (portOccupancy s) r.frames := by
  have hv : st.start.version = s.version := by rw [hst]
  obtain ⟨hpm, hports⟩ := h.portMap
  rw [← hpi] at hpm
  by_cases h30 : s.version.gte 3 0 = true
  · refine ⟨expFrames s.version (portOccupancy s) r.frames, ?_, by simp [Ver.lt, h30]⟩
    simpa [canonEventsAny, h30] using frames_A s.version (portOccupancy s) [] r.frames st hv h30
      (Ver.gte_22_of_30 h30) (by rw [hfr, FCols_new_eq]) hpm hports h.frames
  · have h30' : s.version.gte 3 0 = false := by simpa using h30
    -- below 3.0 a frame is closed lazily: the empty frame set is its own closure
    have hnew : OpenInv s.version (portOccupancy s) [] st.frames := by
      rw [hfr, FCols_new_eq]
      refine ⟨rfl, rfl, rfl, rfl, rfl, ?_⟩
      rw [← FCols_new_eq, FCols.new_close, FCols_new_eq]
      rfl
    have hrun : ∃ f, runEvents st (canonEventsAny s.version (portOccupancy s) r.frames) = .ok { st with frames := f } ∧
        OpenInv s.version (portOccupancy s) r.frames f := by
      by_cases h22 : s.version.gte 2 2 = true
      · simpa [canonEventsAny, h30', h22] using
          frames_open_B s.version (portOccupancy s) h30' h22 hports r.frames [] st hv hnew hpm h.frames
      · have h22' : s.version.gte 2 2 = false := by simpa using h22
        simpa [canonEventsAny, h30', h22'] using
          frames_open_C s.version (portOccupancy s) h30' h22' hports r.frames [] st hv hnew hpm h.frames (by simpa using h.seq h22')
    obtain ⟨f, hrun, hinv⟩ := hrun
    exact ⟨f, hrun, by simpa [Ver.lt, h30'] using close_eq_exp _ _ _ _ hinv⟩

/-- the permuted replay: every frame of `r` with an admissible body order -/
structure Permuted (v : Ver) (shape : List PortOccupancy) (r : Replay) (fr : List (FrameOcc × List BEv)) : Prop where
  frames : fr.map Prod.fst = r.frames
  bodies : ∀ ob ∈ fr, BodyOK v (nSlots shape) ob.1 ob.2

def permStream (v : Ver) (shape : List PortOccupancy) (fr : List (FrameOcc × List BEv)) : Unknowns :=
  { extra := [], mixed := fr.flatMap fun ob => frameEventsP v shape ob.1 ob.2 }

/-- the recorder's frame events up to the order of events *inside* a frame: either the canonical stream, or (≥ 3.0, where frames are
    bracketed by Frame Start / Frame End) every frame's body events in any order that keeps each character's events and the item
    events in their relative order -/
def CanonUpToOrder (s : Start) (r : Replay) (es : List (Nat × Bytes)) : Prop :=
  es = canonEventsAny s.version (portOccupancy s) r.frames ∨
  (s.version.gte 3 0 = true ∧ ∃ fr : List (FrameOcc × List BEv), Permuted s.version (portOccupancy s) r fr ∧
    es = fr.flatMap fun ob => frameEventsP s.version (portOccupancy s) ob.1 ob.2)

theorem canonUpToOrder_sizes {T : TextOracle} {r : Replay} {s : Start} {gk : Option GeckoBlocks} (h : r.WFAny T s gk)
    {es : List (Nat × Bytes)} (hc : CanonUpToOrder s r es) (sl el : Nat) :
    ∀ e ∈ es, isFrameEv e.1 = true ∧ (e.1, e.2.length) ∈ canonTableAny s.version sl el gk := by
  rcases hc with rfl | ⟨h30, fr, hp, rfl⟩
  · exact canonEventsAny_sizes h sl el
  · intro e he
    obtain ⟨ob, hob, heo⟩ := List.mem_flatMap.mp he
    have sub := canonTable_sub_any s.version sl el gk h30
    have hmem : ob.1 ∈ r.frames := by
      rw [← hp.frames]
      exact List.mem_map.mpr ⟨ob, hob, rfl⟩
    exact frameEventsP_declared (h.frames ob.1 hmem) (hp.bodies ob hob).ok
      (hpre := sub _ (by simp [canonTable])) (hpost := sub _ (by simp [canonTable])) (hstart := sub _ (by simp [canonTable]))
      (hitem := sub _ (by simp [canonTable])) (hend := sub _ (by simp [canonTable])) e heo

theorem canonUpToOrder_codes {T : TextOracle} {r : Replay} {s : Start} {gk : Option GeckoBlocks} (h : r.WFAny T s gk)
    {es : List (Nat × Bytes)} (hc : CanonUpToOrder s r es) : ∀ e ∈ es, isFrameEv e.1 = true :=
  fun e he => (canonUpToOrder_sizes h hc 0 0 e he).1

theorem canonUpToOrder_frames {T : TextOracle} {r : Replay} {s : Start} {gk : Option GeckoBlocks} (h : r.WFAny T s gk) (st : PState)
    (hst : st.start = s) (hfr : st.frames = FCols.new s.version (portOccupancy s)) (hpi : st.portIdx = portIdxOf (portOccupancy s))
    (es : List (Nat × Bytes)) (hc : CanonUpToOrder s r es) :
    ∃ f, runEvents st es = .ok { st with frames := f } ∧
      (if s.version.lt 3 0 then f.close else f) = expFrames s.version (portOccupancy s) r.frames := by
  rcases hc with rfl | ⟨h30, fr, hp, rfl⟩
  · exact canonEventsAny_run h st hst hfr hpi
  · obtain ⟨hpm, hports⟩ := h.portMap
    have hrun := frames_perm s.version (portOccupancy s) h30 (Ver.gte_22_of_30 h30) hports fr [] st (by rw [hst])
      (by rw [hfr, FCols_new_eq]) (by rw [hpi]; exact hpm)
      (fun ob hob => ⟨h.frames _ (by rw [← hp.frames]; exact List.mem_map.mpr ⟨ob, hob, rfl⟩), hp.bodies ob hob⟩)
    rw [List.nil_append, hp.frames] at hrun
    exact ⟨_, hrun, by simp [Ver.lt, h30]⟩

/-- `canonUpToOrder_frames` and `canonUpToOrder_codes` in one statement, the untouched fields spelled out: such a stream runs
    to the expected frames touching nothing else, and none of its events is a splitter or Game End -/
theorem canonUpToOrder_run {T : TextOracle} {r : Replay} {s : Start} {gk : Option GeckoBlocks} (h : r.WFAny T s gk) (st : PState)
    (hst : st.start = s) (hfr : st.frames = FCols.new s.version (portOccupancy s)) (hpi : st.portIdx = portIdxOf (portOccupancy s))
    (es : List (Nat × Bytes)) (hc : CanonUpToOrder s r es) :
    (∃ st', runEvents st es = .ok st' ∧ st'.ctx = st.ctx ∧ st'.fend = st.fend ∧
      st'.gecko = st.gecko ∧ st'.metadata = st.metadata ∧ st'.doubleGameEnd = st.doubleGameEnd ∧
      (if s.version.lt 3 0 then st'.frames.close else st'.frames) = expFrames s.version (portOccupancy s) r.frames) ∧
    (∀ e ∈ es, e.1 ≠ EV_SPLITTER ∧ e.1 ≠ EV_GAME_END) :=
  ⟨frames_only (canonUpToOrder_frames h st hst hfr hpi es hc),
    fun e he => isFrameEv_ne (canonUpToOrder_codes h hc e he)⟩

/-- **`readP_gen` for the file of a history**, whatever the middle, provided it leaves nothing but frames, Gecko codes and the
    splitter accumulator changed; the quirk flag is set exactly for a doubled Game End (junk does not look like one). -/
theorem readP_replay (T : TextOracle) (r : Replay) (s : Start) (t : List (Nat × Nat)) (mid junk : Bytes) (psF : ParseState)
    (hstart : gameStart T r.startBlock = .ok s)
    (ht : TableOK t) (hnd : (t.map Prod.fst).Nodup) (hlen : 3 * t.length + 1 < 256)
    (hGS : (EV_GAME_START, r.startBlock.length) ∈ t) (hGE : (EV_GAME_END, r.endLen s.version) ∈ t)
    (hmid : MidRun (ps0T t r.startBlock.length s) mid psF)
    (hbytes : psF.bytesRead = (ps0T t r.startBlock.length s).bytesRead + mid.length)
    (hsizes : psF.st.sizes = t.reverse) (hst : psF.st.start = s)
    (hfend : psF.st.fend = none) (hmeta : psF.st.metadata = none) (hdge : psF.st.doubleGameEnd = none)
    (hend : ∀ e, r.fend = some e → ∃ ge, gameEnd e = .ok ge)
    (hdbl : r.doubled = true → ∃ e, r.fend = some e ∧ e.length = endSize s.version)
    (hjunk : junk ≠ [] → (∃ e, r.fend = some e) ∧ r.doubled = false ∧ ¬ looksLikeEnd s.version junk)
    (hmd : ∀ m, r.metadata = some m → KVs.WF T.utf8Ok 1 m)
    (hraw : (r.gfile t mid junk).raw.length < 256 ^ 4) :
    ∃ ge : Option End, r.fend.map gameEnd = ge.map Res.ok ∧
      readP T {} (r.gfile t mid junk).encode =
        .ok ({ start := s, fend := ge, frames := psF.st.closed.frames, metadata := r.metadata, gecko := psF.st.gecko,
               hashedLen := none, doubleGameEnd := if r.doubled then some true else none }, []) := by
  have hel : ∀ e, r.fend = some e → r.endLen s.version = e.length := by
    intro e he
    simp [Replay.endLen, he]
  -- without a Game End there is no second one, and junk follows a Game End only (`hjunk`)
  have hextra : r.fend = none → (r.gfile t mid junk).extra = [] := by
    intro hn
    simp only [Replay.gfile]
    cases hd : r.doubled with
    | true => simp [hn]
    | false =>
      simp only [Bool.false_eq_true, ↓reduceIte]
      by_cases hj : junk = []
      · exact hj
      · obtain ⟨⟨e, he⟩, _⟩ := hjunk hj
        rw [hn] at he
        cases he
  have hwf : (r.gfile t mid junk).WF T s psF :=
    { start := hstart, tableOK := ht, nodup := hnd, tableLen := hlen, declStart := hGS, declEnd := ⟨_, hGE, hel⟩,
      mid := hmid, midBytes := hbytes, sizes := hsizes, fstart := hst, ffend := hfend, fmeta := hmeta, fdge := hdge,
      endOK := hend, extraOK := hextra, metadata := hmd, rawLen := hraw }
  obtain ⟨ge, hge, hread⟩ := readP_gen T _ s psF hwf
  refine ⟨ge, hge, ?_⟩
  rw [hread]
  have hdgeEq : dgeOf s.version (r.gfile t mid junk).extra none = (if r.doubled then some true else none) := by
    simp only [Replay.gfile]
    cases hd : r.doubled with
    | true =>
      obtain ⟨e, he, hlen⟩ := hdbl hd
      simp only [↓reduceIte, he, dgeOf_end _ e _ hlen]
    | false =>
      simp only [Bool.false_eq_true, ↓reduceIte]
      by_cases hj : junk = []
      · rw [hj, dgeOf_nil]
      · exact dgeOf_junk _ _ _ (hjunk hj).2.2
  show Res.ok (gameOf ({ psF.st with fend := ge } : PState).closed r.metadata (dgeOf s.version (r.gfile t mid junk).extra none), []) = _
  rw [hdgeEq, PState.closed_eq, PState.closed_eq, ← hst]
  rfl

/-- tolerated irregularities of a file: its payload table (`table`: the version's entries, possibly with larger sizes for the
    frame events, plus entries for codes the library does not know), the event stream between the Gecko block (or Game Start)
    and Game End (`mixed`), bytes after Game End up to the declared raw length (`junk`) -/
structure Irr where
  table : List (Nat × Nat)
  /-- unknown events in front of each message-splitter event of the Gecko block, in order (missing entries = none) -/
  pre : List (List (Nat × Bytes)) := []
  mixed : List (Nat × Bytes)
  junk : Bytes

/-- the file of a history with irregularities: `r.gfile` at the table, middle and junk of `i` (`s` is not used) -/
def Replay.fileIrr (r : Replay) (s : Start) (gk : Option GeckoBlocks) (i : Irr) : GFile :=
  { table := i.table
    startBlock := r.startBlock
    mid := (match gk with | some g => g.encU i.pre | none => []) ++ encEvents i.mixed
    fend := r.fend
    extra := if r.doubled then (match r.fend with | some e => encEvent (EV_GAME_END, e) | none => []) else i.junk
    metadata := r.metadata }

theorem Replay.fileIrr_eq (r : Replay) (s : Start) (gk : Option GeckoBlocks) (i : Irr) :
    r.fileIrr s gk i = r.gfile i.table (r.fileIrr s gk i).mid i.junk := rfl

section
variable (r : Replay) (s : Start) (gk : Option GeckoBlocks) (i : Irr)
  (hdbl : r.doubled = true → ∃ e, r.fend = some e) (hj : i.junk = [])
include hdbl hj

theorem Replay.fileIrr_endPart : (r.fileIrr s gk i).endPart = encEvents r.endEvents := by
  rw [r.fileIrr_eq, r.gfile_endPart _ _ _ fun hd => ⟨hdbl hd, hj⟩, hj, List.append_nil]

theorem Replay.fileIrr_raw :
    (r.fileIrr s gk i).raw =
      tablePrefix i.table ++ (encEvent (EV_GAME_START, r.startBlock) ++ ((r.fileIrr s gk i).mid ++ encEvents r.endEvents)) := by
  rw [GFile.raw, r.fileIrr_endPart s gk i hdbl hj]
  rfl

end

/-- **well-formed up to tolerated irregularities** (any version): erasing the unknown events from the stream leaves the
    recorder's frame events — canonical, or (≥ 3.0) with the events inside each frame in another admissible order — each
    possibly with extra trailing bytes (a newer version's longer payloads); every
    event of the stream is declared in the payload table with its size; junk follows a single Game End and does not look
    like a second one -/
structure Irr.OK (T : TextOracle) (r : Replay) (s : Start) (gk : Option GeckoBlocks) (i : Irr) : Prop where
  base : r.WFAny T s gk
  tableOK : TableOK i.table
  nodup : (i.table.map Prod.fst).Nodup
  tableLen : 3 * i.table.length + 1 < 256
  declStart : (EV_GAME_START, r.startBlock.length) ∈ i.table
  declEnd : (EV_GAME_END, r.endLen s.version) ∈ i.table
  declSplit : ∀ g, gk = some g → (EV_SPLITTER, 516) ∈ i.table
  erase : ∃ es, Longer (i.mixed.filter (fun e => isKnown e.1)) es ∧ CanonUpToOrder s r es
  declared : ∀ e ∈ i.mixed, e.1 < 256 ∧ (e.1, e.2.length) ∈ i.table
  preOK : ∀ u ∈ i.pre, ∀ e ∈ u, isKnown e.1 = false ∧ e.1 < 256 ∧ (e.1, e.2.length) ∈ i.table
  junkOK : i.junk ≠ [] → (∃ e, r.fend = some e) ∧ r.doubled = false ∧ ¬ looksLikeEnd s.version i.junk
  rawLen : (r.fileIrr s gk i).raw.length < 256 ^ 4

/-- unknown events and no payload longer than the version's: the table is the version's table plus the declared unknown codes -/
def Irr.ofUnknown (v : Ver) (sl el : Nat) (gk : Option GeckoBlocks) (extra : List (Nat × Nat)) (mixed : List (Nat × Bytes)) (junk : Bytes) : Irr :=
  { table := canonTableAny v sl el gk ++ extra, mixed := mixed, junk := junk }

/-- the state after the Gecko block (or after `parse_start` when there is none) -/
def psAfterGecko (t : List (Nat × Nat)) (sl : Nat) (s : Start) (pre : List (List (Nat × Bytes))) : Option GeckoBlocks → ParseState
  | none => ps0T t sl s
  | some g => { st := { (ps0T t sl s).st with splitRaw := [], splitActual := g.total, gecko := some (Gecko.mk (catData g.all) g.total) },
                bytesRead := (ps0T t sl s).bytesRead + (g.encU pre).length }

theorem psAfterGecko_bytes (t : List (Nat × Nat)) (sl : Nat) (s : Start) (pre : List (List (Nat × Bytes))) (gk : Option GeckoBlocks) :
    (psAfterGecko t sl s pre gk).bytesRead =
      (ps0T t sl s).bytesRead + (match gk with | some g => g.encU pre | none => ([] : Bytes)).length := by
  cases gk <;> rfl

/-- (`generalizing := false`: a plain `match`, `hb` and `hsz` stay out of it) -/
theorem midRun_afterGecko {T : TextOracle} {r : Replay} {s : Start} {gk : Option GeckoBlocks} (hb : r.WFAny T s gk)
    (t : List (Nat × Nat)) (pre : List (List (Nat × Bytes)))
    (hsz : ∀ g, gk = some g → sizeOfEv t.reverse EV_SPLITTER = some 516)
    (hpre : ∀ u ∈ pre, ∀ e ∈ u, isKnown e.1 = false ∧ e.1 < 256 ∧ sizeOfEv t.reverse e.1 = some e.2.length) :
    MidRun (ps0T t r.startBlock.length s) (match (generalizing := false) gk with | some g => g.encU pre | none => [])
      (psAfterGecko t r.startBlock.length s pre gk) := by
  cases gk with
  | none => exact MidRun.nil _
  | some g =>
    obtain ⟨_, hfull, hlast, _, hlt⟩ := hb.gecko g rfl
    exact midRun_geckoU t r.startBlock.length s g pre hfull hlast hlt (hsz g rfl) hpre

/-- a known event of the stream has the code of a frame event (`erase`), an unknown one is no splitter or Game End by definition -/
theorem Irr.OK.mixed_declared {T : TextOracle} {r : Replay} {s : Start} {gk : Option GeckoBlocks} {i : Irr} (h : i.OK T r s gk) :
    ∀ e ∈ i.mixed, e.1 < 256 ∧ e.1 ≠ EV_SPLITTER ∧ e.1 ≠ EV_GAME_END ∧ sizeOfEv i.table.reverse e.1 = some e.2.length := by
  intro e he
  obtain ⟨es, hlonger, hcanon⟩ := h.erase
  have hne : e.1 ≠ EV_SPLITTER ∧ e.1 ≠ EV_GAME_END := by
    cases hk : isKnown e.1 with
    | false => exact isKnown_false_ne hk
    | true =>
      have hmem : e.1 ∈ (i.mixed.filter (fun e => isKnown e.1)).map Prod.fst := List.mem_map.mpr ⟨e, List.mem_filter.mpr ⟨he, hk⟩, rfl⟩
      rw [hlonger.codes] at hmem
      obtain ⟨e0, he0, hee⟩ := List.mem_map.mp hmem
      exact isFrameEv_ne (hee ▸ canonUpToOrder_codes h.base hcanon e0 he0)
  exact ⟨(h.declared e he).1, hne.1, hne.2, sizeOfEv_reverse i.table h.nodup _ _ (h.declared e he).2⟩

/-- **General read theorem for well-formed replays with tolerated irregularities, every version.**  Whatever declared
    unknown events are spliced into the frame events and whatever bytes follow Game End, the reader returns exactly the game
    of the history — the one it returns for the canonical file (`C04_any`). -/
theorem readP_irregular (T : TextOracle) (r : Replay) (s : Start) (gk : Option GeckoBlocks) (i : Irr) (h : i.OK T r s gk) :
    ∃ ge : Option End, r.fend.map gameEnd = ge.map Res.ok ∧
      readP T {} (r.fileIrr s gk i).encode = .ok (r.gameAny s ge gk, []) := by
  have hb := h.base
  let t := i.table
  have look : ∀ c sz, (c, sz) ∈ t → sizeOfEv t.reverse c = some sz := fun c sz hm => sizeOfEv_reverse t h.nodup c sz hm
  let ps1 := psAfterGecko t r.startBlock.length s i.pre gk
  have hps1 : ps1.st.start = s ∧ ps1.st.frames = FCols.new s.version (portOccupancy s) ∧ ps1.st.portIdx = portIdxOf (portOccupancy s) ∧
      ps1.st.sizes = t.reverse ∧ ps1.st.fend = none ∧ ps1.st.metadata = none ∧ ps1.st.doubleGameEnd = none := by
    cases gk <;> exact ⟨rfl, rfl, rfl, rfl, rfl, rfl, rfl⟩
  obtain ⟨p1, p2, p3, p4, p5, p6, p7⟩ := hps1
  have hbr1 := psAfterGecko_bytes t r.startBlock.length s i.pre gk
  have hg := midRun_afterGecko hb t i.pre (fun g hg => look _ _ (h.declSplit g hg))
    (fun u hu e he => by obtain ⟨a, b, c⟩ := h.preOK u hu e he; exact ⟨a, b, look _ _ c⟩)
  -- the stream runs like its known events, those like the recorder's events they extend
  obtain ⟨es, hlonger, hcanon⟩ := h.erase
  obtain ⟨f, hrun, hfr⟩ := canonUpToOrder_frames hb ps1.st p1 p2 p3 es hcanon
  have hrun' : runEvents ps1.st i.mixed = .ok { ps1.st with frames := f } := by
    rw [runEvents_erase_unknown]; exact runEvents_longer hlonger _ _ hrun
  have hev := MidRun.events ps1 i.mixed _ (by rw [p4]; exact h.mixed_declared) hrun'
  have hbytes : ps1.bytesRead + (encEvents i.mixed).length =
      (ps0T t r.startBlock.length s).bytesRead + (r.fileIrr s gk i).mid.length := by
    rw [hbr1, show (r.fileIrr s gk i).mid = _ ++ encEvents i.mixed from rfl, List.length_append, Nat.add_assoc]
  obtain ⟨ge, hge, hread⟩ := readP_replay T r s t (r.fileIrr s gk i).mid i.junk
    ⟨{ ps1.st with frames := f }, ps1.bytesRead + (encEvents i.mixed).length⟩
    hb.start h.tableOK h.nodup h.tableLen h.declStart h.declEnd (hg.trans hev hbr1)
    (hbytes := hbytes) (hsizes := p4) (hst := p1) (hfend := p5) (hmeta := p6) (hdge := p7)
    (hend := fun e he => (hb.endOK e he).2.2) (hdbl := hb.doubledOK) (hjunk := h.junkOK) (hmd := hb.metadata) (hraw := h.rawLen)
  refine ⟨ge, hge, ?_⟩
  rw [r.fileIrr_eq, hread]
  have hclosed : ({ ps1.st with frames := f } : PState).closed.frames = expFrames s.version (portOccupancy s) r.frames := by
    rw [← hfr, ← p1, PState.closed_eq]
  rw [show (ParseState.mk { ps1.st with frames := f } _).st.closed.frames = _ from hclosed]
  cases gk <;> rfl

#print axioms readP_irregular
end Peppi
