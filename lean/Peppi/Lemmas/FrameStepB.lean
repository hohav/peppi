import Peppi.Lemmas.FrameStep
import Peppi.Lemmas.HandleSpec
/-! Per-frame theorem for the 2.2 ≤ v < 3.0 regime: Frame Start opens (and lazily closes the previous frame), no items, no Frame End. -/
namespace Peppi
open Extracted

/-- canonical event order of one frame, 2.2 ≤ version < 3.0 -/
def frameEventsB (v : Ver) (shape : List PortOccupancy) (o : FrameOcc) : List (Nat × Bytes) :=
  [(EV_FRAME_START, encPlain v Start.readPush o.id o.start)] ++
  charEvents false v o.id (slotList shape 0) (presentFrom 0 o.chars) ++
  charEvents true v o.id (slotList shape 0) (presentFrom 0 o.chars)

/-- the reader's columns while the last frame is still open: everything as expected except that the ports are not padded yet -/
def OpenInv (v : Ver) (shape : List PortOccupancy) (h : List FrameOcc) (f : FCols) : Prop :=
  f.id = h.map (·.id) ∧ f.start = (expFrames v shape h).start ∧ f.fend = (expFrames v shape h).fend ∧
  f.itemOff = (expFrames v shape h).itemOff ∧ f.item = (expFrames v shape h).item ∧
  f.close.ports = expPorts shape h

theorem close_eq_exp (v : Ver) (shape : List PortOccupancy) (h : List FrameOcc) (f : FCols) (hinv : OpenInv v shape h f) :
    f.close = expFrames v shape h := by
  obtain ⟨hid, hst, hfe, hio, hit, hcl⟩ := hinv
  show FCols.mk f.id f.close.ports f.start f.fend f.itemOff f.item = _
  rw [hid, hcl, hst, hfe, hio, hit]
  rfl

/-- Below 3.0 a frame is its pre and post events.  Once the previous frame has been closed and `o.id` pushed (by Frame Start
    from 2.2 on, by the first pre event before), they are a `body_step` without items and re-establish `OpenInv`.
    `s`: the Frame Start column afterwards (pushed to from 2.2 on, untouched before). -/
theorem open_step {v : Ver} {shape : List PortOccupancy} {st : PState} (h : List FrameOcc) (o : FrameOcc)
    (hv : st.start.version = v) (h30 : v.gte 3 0 = false) (hinv : OpenInv v shape h st.frames)
    (hmap : PortMapOK st.portIdx shape) (hports : ∀ p ∈ shape, p.port < 256) (ho : o.OK v (nSlots shape))
    (s : Option SCols) (hs : s = (expFrames v shape (h ++ [o])).start) :
    ∃ f, runEvents { st with frames := { st.frames.close with id := st.frames.id ++ [o.id], start := s } }
          (charEvents false v o.id (slotList shape 0) (presentFrom 0 o.chars) ++
           charEvents true v o.id (slotList shape 0) (presentFrom 0 o.chars)) = .ok { st with frames := f } ∧
      OpenInv v shape (h ++ [o]) f := by
  obtain ⟨hid, _, hfe, hio, hit, hcl⟩ := hinv
  obtain ⟨efe, eio, eit⟩ := expFrames_lt30 shape h h30 (h ++ [o])
  -- the state the body starts from: inside frame `o.id`, the closed ports holding the history `h`
  let f1 : FCols := { st.frames.close with id := st.frames.id ++ [o.id], start := s }
  have hshape : shapeOf st.frames.close.ports = shape := by rw [hcl, (expPorts_shape shape h).1]
  have w : InFrame v shape o.id { st with frames := f1 } := ⟨hv, hshape, hmap, hports, by simp [PState.lastId, f1]⟩
  let body : List BEv := charBody false (presentFrom 0 o.chars) ++ charBody true (presentFrom 0 o.chars)
  have hp := presentFrom_ok v (nSlots shape) o ho
  have hok : ∀ e ∈ body, e.OK v (nSlots shape) := fun e he =>
    (List.mem_append.mp he).elim (charBody_ok hp e) (charBody_ok hp e)
  have hproj : ∀ c, (body.filterMap BEv.cev).filter (·.target == c) = (preC 0 o.chars ++ postC 0 o.chars).filter (·.target == c) := by
    simp [body, List.filterMap_append, charBody_cev, charCEvs, slotEvs_eq_map]
  have hitems : body.filterMap BEv.itemRow = [] := by simp [body, List.filterMap_append, charBody_items]
  obtain ⟨P, e, hP⟩ := body_step h o body w hcl ho hok hproj (fun hne => absurd hitems hne)
  refine ⟨{ f1 with ports := P }, ?_, ?_⟩
  · rw [← charBody_enc, ← charBody_enc, ← List.map_append, e, hitems]
    simp
  · have hlen : (st.frames.id ++ [o.id]).length = h.length + 1 := by simp [hid]
    refine ⟨?_, hs, ?_, ?_, ?_, ?_⟩
    · show st.frames.id ++ [o.id] = _; simp [hid]
    · show st.frames.fend = _; exact hfe.trans efe
    · show st.frames.itemOff = _; exact hio.trans eio
    · show st.frames.item = _; exact hit.trans eit
    · show padPorts (st.frames.id ++ [o.id]).length P = _
      rw [hlen]
      exact hP

/-- the frame step, 2.2 ≤ v < 3.0: Frame Start closes the previous frame and opens this one, then `open_step` -/
theorem frame_open_B (v : Ver) (shape : List PortOccupancy) (h : List FrameOcc) (o : FrameOcc) (st : PState)
    (hv : st.start.version = v) (h30 : v.gte 3 0 = false) (h22 : v.gte 2 2 = true)
    (hinv : OpenInv v shape h st.frames)
    (hmap : PortMapOK st.portIdx shape) (hports : ∀ p ∈ shape, p.port < 256)
    (ho : o.OK v (nSlots shape)) :
    ∃ f, runEvents st (frameEventsB v shape o) = .ok { st with frames := f } ∧ OpenInv v shape (h ++ [o]) f := by
  have ⟨_, hst, _⟩ := hinv
  have e1 := handle_fstart st o.id o.start (h.map fun o => some o.start) hv ho.id ho.start
    (hst.trans (expFrames_start shape h h22))
  simp only [h30, Bool.false_eq_true, ↓reduceIte] at e1
  have hs : some ((h.map fun o => some o.start) ++ [some o.start]) = (expFrames v shape (h ++ [o])).start := by
    simp [expFrames_start shape (h ++ [o]) h22]
  obtain ⟨f, e2, hf⟩ := open_step h o hv h30 hinv hmap hports ho _ hs
  refine ⟨f, ?_, hf⟩
  simp only [frameEventsB, List.cons_append, List.nil_append, runEvents, e1]
  exact e2

/-- a run that replaces the frame columns only, every other field named -/
theorem frames_only {st : PState} {r : Res PState} {Q : FCols → Prop} (h : ∃ f, r = .ok { st with frames := f } ∧ Q f) :
    ∃ st', r = .ok st' ∧ st'.ctx = st.ctx ∧ st'.fend = st.fend ∧ st'.gecko = st.gecko ∧
      st'.metadata = st.metadata ∧ st'.doubleGameEnd = st.doubleGameEnd ∧ Q st'.frames :=
  let ⟨_, e, hf⟩ := h
  ⟨_, e, rfl, rfl, rfl, rfl, rfl, hf⟩

theorem frame_step_B (v : Ver) (shape : List PortOccupancy) (h : List FrameOcc) (o : FrameOcc) (st : PState)
    (hv : st.start.version = v) (h30 : v.gte 3 0 = false) (h22 : v.gte 2 2 = true)
    (hinv : OpenInv v shape h st.frames)
    (hmap : PortMapOK st.portIdx shape) (hports : ∀ p ∈ shape, p.port < 256)
    (ho : o.OK v (nSlots shape)) :
    ∃ st', runEvents st (frameEventsB v shape o) = .ok st' ∧ st'.ctx = st.ctx ∧ st'.fend = st.fend ∧ st'.gecko = st.gecko ∧
      st'.metadata = st.metadata ∧ st'.doubleGameEnd = st.doubleGameEnd ∧ OpenInv v shape (h ++ [o]) st'.frames :=
  frames_only (frame_open_B v shape h o st hv h30 h22 hinv hmap hports ho)

#print axioms frame_step_B

theorem frames_open_B (v : Ver) (shape : List PortOccupancy) (h30 : v.gte 3 0 = false) (h22 : v.gte 2 2 = true)
    (hports : ∀ p ∈ shape, p.port < 256) (h h0 : List FrameOcc) (st : PState) (hv : st.start.version = v)
    (hinv : OpenInv v shape h0 st.frames) (hmap : PortMapOK st.portIdx shape) (hok : ∀ o ∈ h, o.OK v (nSlots shape)) :
    ∃ f, runEvents st (h.flatMap (frameEventsB v shape)) = .ok { st with frames := f } ∧ OpenInv v shape (h0 ++ h) f := by
  have step : ∀ (pre : List FrameOcc) (o : FrameOcc) (post : List FrameOcc) (f0 : FCols),
      h = pre ++ o :: post → OpenInv v shape (h0 ++ pre) f0 →
      ∃ f, runEvents { st with frames := f0 } (frameEventsB v shape o) = .ok { st with frames := f } ∧
        OpenInv v shape (h0 ++ (pre ++ [o])) f := by
    intro pre o post f0 hsplit hf
    have ho : o.OK v (nSlots shape) := hok o (by simp [hsplit])
    rw [← List.append_assoc]
    exact frame_open_B v shape (h0 ++ pre) o { st with frames := f0 } hv h30 h22 hf hmap hports ho
  exact runEvents_fold st (ev := frameEventsB v shape) (Inv := fun l => OpenInv v shape (h0 ++ l)) (l := h) step st.frames
    (by simpa using hinv)

/-- whole histories, regime B: the reader ends in a state whose *closed* columns are the expected ones -/
theorem frames_B (v : Ver) (shape : List PortOccupancy) (h30 : v.gte 3 0 = false) (h22 : v.gte 2 2 = true)
    (hports : ∀ p ∈ shape, p.port < 256) :
    ∀ (h h0 : List FrameOcc) (st : PState), st.start.version = v → OpenInv v shape h0 st.frames → PortMapOK st.portIdx shape →
      (∀ o ∈ h, o.OK v (nSlots shape)) →
      ∃ st', runEvents st (h.flatMap (frameEventsB v shape)) = .ok st' ∧ st'.ctx = st.ctx ∧ st'.fend = st.fend ∧ st'.gecko = st.gecko ∧
        st'.metadata = st.metadata ∧ st'.doubleGameEnd = st.doubleGameEnd ∧ OpenInv v shape (h0 ++ h) st'.frames :=
  fun h h0 st hv hinv hmap hok => frames_only (frames_open_B v shape h30 h22 hports h h0 st hv hinv hmap hok)

#print axioms frames_B
end Peppi
