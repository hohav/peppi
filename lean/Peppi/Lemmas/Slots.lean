import Peppi.Cols
/-! One character slot at a time: a frame's pre / post events as abstract events `CEv` on a list of column sets (`runChars`;
    a target `c` is a position in that list, later the flat slot index), and the columns a presence history must
    produce (`colsOf`, lazy validity). -/
namespace Peppi

structure CharOcc where
  pre : Row
  post : Row
deriving Repr, DecidableEq

inductive CEv where
  | pre (c : Nat) (r : Row)
  | post (c : Nat) (r : Row)
deriving Repr

def CEv.target : CEv → Nat
  | .pre c _ => c
  | .post c _ => c
def CEv.apply : CEv → DCols → DCols
  | .pre _ r, d => d.pushPre r
  | .post _ r, d => d.pushPost r
@[simp] theorem CEv.target_pre (c r) : (CEv.pre c r).target = c := rfl
@[simp] theorem CEv.target_post (c r) : (CEv.post c r).target = c := rfl

def stepChars (chars : List DCols) (e : CEv) : Option (List DCols) :=
  if e.target < chars.length then some (chars.modify e.target e.apply) else none

def runChars : List DCols → List CEv → Option (List DCols)
  | cs, [] => some cs
  | cs, e :: es => match stepChars cs e with
    | none => none
    | some cs' => runChars cs' es

theorem runChars_cons {cs : List DCols} {e : CEv} (h : e.target < cs.length) (es : List CEv) :
    runChars cs (e :: es) = runChars (cs.modify e.target e.apply) es := by
  simp only [runChars, stepChars, h, ↓reduceIte]

theorem runChars_append (cs : List DCols) (a b : List CEv) :
    runChars cs (a ++ b) = (runChars cs a).bind fun cs' => runChars cs' b := by
  induction a generalizing cs with
  | nil => rfl
  | cons e es ih =>
    simp only [List.cons_append, runChars]
    cases stepChars cs e with
    | none => rfl
    | some cs' => exact ih cs'

/-- projection: when every event aims at an existing slot, slot `c` sees exactly the events aimed at it, in order -/
theorem runChars_eq (cs : List DCols) (es : List CEv) (h : ∀ e ∈ es, e.target < cs.length) :
    runChars cs es = some (cs.mapIdx fun c d => (es.filter (·.target == c)).foldl (fun d e => e.apply d) d) := by
  induction es generalizing cs with
  | nil => exact congrArg some (List.ext_getElem (by simp) fun c _ _ => by simp)
  | cons e es ih =>
    have he : e.target < cs.length := h e List.mem_cons_self
    have hrest : ∀ e' ∈ es, e'.target < (cs.modify e.target e.apply).length := by
      intro e' he'
      rw [List.length_modify]
      exact h e' (List.mem_cons_of_mem _ he')
    rw [runChars_cons he, ih _ hrest]
    congr 1
    apply List.ext_getElem (by simp)
    intro c _ _
    rw [List.getElem_mapIdx, List.getElem_mapIdx, List.getElem_modify, List.filter_cons]
    by_cases hc : e.target = c <;> simp [hc]

theorem runChars_ok (cs : List DCols) (es) (h : ∀ e ∈ es, e.target < cs.length) : ∃ cs', runChars cs es = some cs' :=
  ⟨_, runChars_eq cs es h⟩

/-- the columns a presence history must produce (lazy validity) -/
def validOf (hist : List (Option CharOcc)) : Option (List Bool) :=
  if hist.all Option.isSome then none else some (hist.map Option.isSome)

def colsOf (hist : List (Option CharOcc)) : DCols :=
  { pre := hist.map (·.map (·.pre)), post := hist.map (·.map (·.post)), valid := validOf hist }

theorem map_isSome_of_all {α} {l : List (Option α)} (h : l.all Option.isSome = true) :
    l.map Option.isSome = List.replicate l.length true :=
  List.ext_getElem (by simp) fun i h1 _ => by
    simpa using List.all_eq_true.mp h _ (List.getElem_mem (by simpa using h1))

theorem valid_colsOf {hist : List (Option CharOcc)} {b : List Bool} (h : (colsOf hist).valid = some b) :
    b = hist.map Option.isSome := by
  simp only [colsOf, validOf] at h
  split at h
  · cases h
  · exact (Option.some.inj h).symm

theorem DCols.padTo_of_len_ge (d : DCols) (n) (h : n ≤ d.len) : d.padTo n = d := by
  unfold DCols.padTo; simp [Nat.not_lt.mpr h]

theorem DCols.padTo_succ (d : DCols) : d.padTo (d.len + 1) = d.pushNull := by
  unfold DCols.padTo
  simp only [Nat.lt_add_one, ↓reduceIte]
  apply DCols.padTo_of_len_ge
  simp [DCols.pushNull, DCols.len]

theorem colsOf_len (hist) : (colsOf hist).len = hist.length := by simp [colsOf, DCols.len]

theorem frame_present (hist) (p q : Row) :
    ((colsOf hist).pushPre p |>.pushPost q).padTo (hist.length + 1) = colsOf (hist ++ [some ⟨p, q⟩]) := by
  rw [DCols.padTo_of_len_ge]
  · simp only [colsOf, DCols.pushPre, DCols.pushPost, validOf, List.map_append, List.all_append]
    by_cases h : hist.all Option.isSome <;> simp [h]
  · simp [DCols.pushPre, DCols.pushPost, DCols.len, colsOf]

theorem frame_absent (hist) :
    (colsOf hist).padTo (hist.length + 1) = colsOf (hist ++ [none]) := by
  have : (colsOf hist).len = hist.length := colsOf_len hist
  rw [← this, DCols.padTo_succ]
  simp only [colsOf, DCols.pushNull, validOf, List.map_append, List.all_append, DCols.len, List.length_map]
  by_cases h : hist.all Option.isSome
  · simp [h, map_isSome_of_all h]
  · simp [h]

/-- padding a slot that is already full is the identity (frames closed twice, pre-3.0 regimes) -/
theorem colsOf_padTo_same (hist) : (colsOf hist).padTo hist.length = colsOf hist :=
  DCols.padTo_of_len_ge _ _ (by simp [colsOf_len])

/-- canonical per-slot events: one event per present slot, in slot order -/
def slotEvs (mk : Nat → CharOcc → CEv) : Nat → List (Option CharOcc) → List CEv
  | _, [] => []
  | c, none :: t => slotEvs mk (c+1) t
  | c, some pq :: t => mk c pq :: slotEvs mk (c+1) t

abbrev preC := slotEvs (fun c pq => .pre c pq.pre)
abbrev postC := slotEvs (fun c pq => .post c pq.post)

/-- present slots with their index, in slot order -/
def presentFrom : Nat → List (Option CharOcc) → List (Nat × CharOcc)
  | _, [] => []
  | c, none :: t => presentFrom (c+1) t
  | c, some o :: t => (c, o) :: presentFrom (c+1) t

theorem slotEvs_eq_map (mk : Nat → CharOcc → CEv) (c0 : Nat) (l : List (Option CharOcc)) :
    slotEvs mk c0 l = (presentFrom c0 l).map (fun co => mk co.1 co.2) := by
  induction l generalizing c0 with
  | nil => rfl
  | cons a t ih => cases a with
    | none => simpa [slotEvs, presentFrom] using ih (c0+1)
    | some o => simp [slotEvs, presentFrom, ih (c0+1)]

theorem presentFrom_eq (c0 : Nat) (l : List (Option CharOcc)) :
    presentFrom c0 l = (l.zipIdx c0).filterMap fun x => x.1.map (x.2, ·) := by
  induction l generalizing c0 with
  | nil => rfl
  | cons a t ih => cases a <;> simp [presentFrom, ih]

theorem mem_presentFrom {c0 : Nat} {l : List (Option CharOcc)} {co : Nat × CharOcc} :
    co ∈ presentFrom c0 l ↔ c0 ≤ co.1 ∧ l[co.1 - c0]? = some (some co.2) := by
  rw [presentFrom_eq, List.mem_filterMap, ← List.mk_mem_zipIdx_iff_le_and_getElem?_sub]
  constructor
  · rintro ⟨⟨_ | o, i⟩, hx, hco⟩
    · cases hco
    · cases hco; exact hx
  · exact fun h => ⟨_, h, rfl⟩

theorem presentFrom_lt (c0 : Nat) (l : List (Option CharOcc)) : ∀ co ∈ presentFrom c0 l, c0 ≤ co.1 ∧ co.1 < c0 + l.length := by
  intro co h
  obtain ⟨h1, h2⟩ := mem_presentFrom.mp h
  exact ⟨h1, (Nat.sub_lt_iff_lt_add' h1).mp (List.getElem?_eq_some_iff.mp h2).1⟩

theorem presentFrom_filter (c0 : Nat) (l : List (Option CharOcc)) (k : Nat) :
    (presentFrom c0 l).filter (·.1 == c0 + k) = match (l[k]?).join with | some pq => [(c0 + k, pq)] | none => [] := by
  induction l generalizing c0 k with
  | nil => rfl
  | cons a t ih =>
    cases k with
    | zero =>
      -- the slots of the tail are numbered from `c0 + 1`
      have hnone : (presentFrom (c0 + 1) t).filter (·.1 == c0 + 0) = [] := by
        refine List.filter_eq_nil_iff.mpr fun co h heq => ?_
        have hge : c0 + 1 ≤ co.1 := (presentFrom_lt _ _ co h).1
        have heq : co.1 = c0 + 0 := beq_iff_eq.mp heq
        omega
      cases a with
      | none => exact hnone
      | some o => rw [presentFrom, List.filter_cons_of_pos (by simp), hnone]; rfl
    | succ k =>
      have := ih (c0 + 1) k
      rw [Nat.add_assoc, Nat.add_comm 1 k] at this
      cases a with
      | none => exact this
      | some o => rw [presentFrom, List.filter_cons_of_neg (by simp)]; exact this

section
variable {mk : Nat → CharOcc → CEv} (hmk : ∀ c pq, (mk c pq).target = c)
include hmk

theorem slotEvs_lt (l) : ∀ e ∈ slotEvs mk 0 l, e.target < l.length := by
  intro e he
  rw [slotEvs_eq_map] at he
  obtain ⟨co, hco, rfl⟩ := List.mem_map.mp he
  simpa [hmk] using (presentFrom_lt 0 l co hco).2

theorem slotEvs_filter (l : List (Option CharOcc)) (c : Nat) :
    (slotEvs mk 0 l).filter (·.target == c) = match (l[c]?).join with | some pq => [mk c pq] | none => [] := by
  have := presentFrom_filter 0 l c
  rw [Nat.zero_add] at this
  rw [slotEvs_eq_map, List.filter_map]
  simp only [Function.comp_def, hmk, this]
  cases (l[c]?).join <;> rfl
end

theorem preC_postC_lt (chars : List (Option CharOcc)) : ∀ e ∈ preC 0 chars ++ postC 0 chars, e.target < chars.length := by
  intro e he
  rcases List.mem_append.mp he with he | he <;> exact slotEvs_lt (fun _ _ => rfl) chars e he

/-- the whole-frame effect on all slots: run pre events, run post events, pad every slot -/
theorem slots_frame_step (n : Nat) (hists : Nat → List (Option CharOcc)) (k : Nat)
    (hlen : ∀ c, (hists c).length = k) (chars : List (Option CharOcc)) (hn : chars.length = n) :
    ∃ cs2, runChars ((List.range n).map (fun c => colsOf (hists c))) (preC 0 chars ++ postC 0 chars) = some cs2 ∧
      cs2.map (·.padTo (k + 1)) = (List.range n).map (fun c => colsOf (hists c ++ [(chars[c]?).join])) := by
  have hlt : ∀ e ∈ preC 0 chars ++ postC 0 chars, e.target < ((List.range n).map fun c => colsOf (hists c)).length := by
    rw [List.length_map, List.length_range, ← hn]
    exact preC_postC_lt chars
  refine ⟨_, runChars_eq _ _ hlt, ?_⟩
  apply List.ext_getElem (by simp)
  intro c _ _
  -- slot `c` sees its own pre and post event, or nothing
  simp only [List.getElem_map, List.getElem_mapIdx, List.getElem_range, List.filter_append,
    slotEvs_filter (mk := fun c pq => .pre c pq.pre) (fun _ _ => rfl), slotEvs_filter (mk := fun c pq => .post c pq.post) (fun _ _ => rfl)]
  cases (chars[c]?).join with
  | none => exact hlen c ▸ frame_absent (hists c)
  | some pq => exact hlen c ▸ frame_present (hists c) pq.pre pq.post

#print axioms slots_frame_step
end Peppi
