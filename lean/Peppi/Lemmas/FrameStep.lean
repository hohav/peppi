import Peppi.Lemmas.Body
/-! The columns a history of frames must produce, and the per-frame theorem on the real reader state: the body of a frame
    (`body_step`, for every regime) and the whole frame for version ≥ 3.0 (Frame Start, body in any admissible order, Frame End). -/
namespace Peppi
open Extracted

/-- one frame as recorded; `chars` is indexed by flat slot (the order of `slotList`), `none` = absent from this frame -/
structure FrameOcc where
  id : Int
  start : Row
  chars : List (Option CharOcc)
  items : List Row
  fend : Row

def histAt (h : List FrameOcc) (c : Nat) : List (Option CharOcc) := h.map (fun o => (o.chars[c]?).join)
def expFlat (shape : List PortOccupancy) (h : List FrameOcc) : List DCols :=
  (List.range (nSlots shape)).map (fun c => colsOf (histAt h c))
def expPorts (shape : List PortOccupancy) (h : List FrameOcc) : List PCols := rebuild shape (expFlat shape h)

/-- item offsets: entry `k` counts the item rows before frame `k` (one entry more than frames) -/
def offsOf (h : List FrameOcc) : List Nat :=
  (List.range (h.length + 1)).map (fun k => ((h.take k).flatMap (·.items)).length)

def itemsBefore (h : List FrameOcc) (k : Nat) : Nat := ((h.take k).flatMap (·.items)).length

theorem offsOf_get (h : List FrameOcc) (k : Nat) (hk : k ≤ h.length) : (offsOf h)[k]? = some (itemsBefore h k) := by
  unfold offsOf itemsBefore
  rw [List.getElem?_map, List.getElem?_range (by omega)]
  rfl

theorem itemsBefore_succ (h : List FrameOcc) (idx : Nat) (hidx : idx < h.length) :
    itemsBefore h (idx+1) = itemsBefore h idx + (h[idx]).items.length := by
  unfold itemsBefore
  rw [List.take_add_one, List.getElem?_eq_getElem hidx]
  simp only [Option.toList_some, List.flatMap_append, List.flatMap_cons, List.flatMap_nil, List.append_nil, List.length_append]

theorem items_split (h : List FrameOcc) (idx : Nat) (hidx : idx < h.length) :
    h.flatMap (·.items) = (h.take idx).flatMap (·.items) ++ ((h[idx]).items ++ (h.drop (idx+1)).flatMap (·.items)) := by
  conv => lhs; rw [← List.take_append_drop idx h, List.drop_eq_getElem_cons hidx]
  rw [List.flatMap_append, List.flatMap_cons]

/-- the columns a history must produce -/
def expFrames (v : Ver) (shape : List PortOccupancy) (h : List FrameOcc) : FCols :=
  { id := h.map (·.id), ports := expPorts shape h,
    start := if v.gte 2 2 then some (h.map fun o => some o.start) else none,
    fend := if v.gte 3 0 then some (h.map fun o => some o.fend) else none,
    itemOff := if v.gte 3 0 then some (offsOf h) else none,
    item := if v.gte 3 0 then some ((h.flatMap (·.items)).map some) else none }

section
variable {v : Ver} (shape : List PortOccupancy) (h : List FrameOcc)
theorem expFrames_start (h22 : v.gte 2 2 = true) : (expFrames v shape h).start = some (h.map fun o => some o.start) := if_pos h22
theorem expFrames_fend (h30 : v.gte 3 0 = true) : (expFrames v shape h).fend = some (h.map fun o => some o.fend) := if_pos h30
theorem expFrames_itemOff (h30 : v.gte 3 0 = true) : (expFrames v shape h).itemOff = some (offsOf h) := if_pos h30
theorem expFrames_item (h30 : v.gte 3 0 = true) : (expFrames v shape h).item = some ((h.flatMap (·.items)).map some) := if_pos h30

/-- below 3.0 the Frame End, item-offset and item columns are absent whatever the history -/
theorem expFrames_lt30 (h30 : v.gte 3 0 = false) (h' : List FrameOcc) :
    (expFrames v shape h).fend = (expFrames v shape h').fend ∧ (expFrames v shape h).itemOff = (expFrames v shape h').itemOff ∧
      (expFrames v shape h).item = (expFrames v shape h').item := by
  simp [expFrames, h30]

/-- below 2.2 so is the Frame Start column -/
theorem expFrames_lt22 (h22 : v.gte 2 2 = false) (h' : List FrameOcc) :
    (expFrames v shape h).start = (expFrames v shape h').start := by
  simp [expFrames, h22]
end

theorem offsOf_snoc (h : List FrameOcc) (o : FrameOcc) :
    offsOf (h ++ [o]) = offsOf h ++ [(h.flatMap (·.items)).length + o.items.length] := by
  simp only [offsOf, List.length_append, List.length_cons, List.length_nil]
  rw [List.range_succ, List.map_append]
  congr 1
  · apply List.map_congr_left
    intro k hk
    simp at hk
    rw [List.take_append_of_le_length (Nat.le_of_lt_succ hk)]
  · have : (h ++ [o]).take (h.length + 1) = h ++ [o] := List.take_of_length_le (by simp)
    simp only [List.map_cons, List.map_nil, this]
    simp [List.flatMap_append]

theorem offsOf_last (h : List FrameOcc) : (offsOf h).getLastD 0 = (h.flatMap (·.items)).length := by
  unfold offsOf
  rw [List.range_succ, List.map_append]
  have : h.take h.length = h := List.take_length
  simp only [List.map_cons, List.map_nil, this]
  simp [List.getLastD_eq_getLast?]

theorem expFrames_snoc {v : Ver} (shape : List PortOccupancy) (h : List FrameOcc) (h30 : v.gte 3 0 = true) (o : FrameOcc) :
    expFrames v shape (h ++ [o]) =
      { id := h.map (·.id) ++ [o.id], ports := expPorts shape (h ++ [o]),
        start := some ((h.map fun o => some o.start) ++ [some o.start]),
        fend := some ((h.map fun o => some o.fend) ++ [some o.fend]),
        itemOff := some (offsOf h ++ [((h.flatMap (·.items)).map some ++ o.items.map some).length]),
        item := some ((h.flatMap (·.items)).map some ++ o.items.map some) } := by
  simp [expFrames, h30, Ver.gte_22_of_30 h30, offsOf_snoc]

theorem expPorts_shape (shape h) : shapeOf (expPorts shape h) = shape ∧ flatSlots (expPorts shape h) = expFlat shape h :=
  flat_rebuild shape (expFlat shape h) 0 (by simp [expFlat, nSlots])

theorem expPorts_nil (shape : List PortOccupancy) :
    expPorts shape [] = shape.map fun p => ⟨p.port, DCols.empty, if p.follower then some DCols.empty else none⟩ := by
  have : expFlat shape [] = List.replicate (nSlots shape) DCols.empty := by
    rw [expFlat, ← List.length_range (n := nSlots shape), ← List.map_const', List.length_range]
    rfl
  rw [expPorts, this, rebuild_empty]

theorem FCols_new_eq (v : Ver) (shape : List PortOccupancy) : FCols.new v shape = expFrames v shape [] := by
  unfold FCols.new expFrames
  simp only [expPorts_nil, List.map_nil, List.flatMap_nil, FCols.mk.injEq, true_and]
  refine ⟨?_, trivial⟩
  split <;> simp [offsOf]

theorem FCols.new_close (v : Ver) (shape : List PortOccupancy) : (FCols.new v shape).close = FCols.new v shape := by
  simp only [FCols.close, FCols.new, FCols.len, List.length_nil, List.map_map]
  congr 1
  apply List.map_congr_left
  intro p _
  simp only [Function.comp]
  cases p.follower <;> simp [DCols.padTo, DCols.len, DCols.empty]

structure FrameOcc.OK (v : Ver) (n : Nat) (o : FrameOcc) : Prop where
  id : I32 o.id
  start : RowOK v Start.readPush o.start
  chars : o.chars.length = n
  occ : ∀ c ∈ o.chars, ∀ x, c = some x → OccOK v x
  items : ∀ r ∈ o.items, RowOK v Item.readPush r
  fend : RowOK v End.readPush o.fend

/-- canonical event order of one frame, version ≥ 3.0 -/
def frameEventsA (v : Ver) (shape : List PortOccupancy) (o : FrameOcc) : List (Nat × Bytes) :=
  [(EV_FRAME_START, encPlain v Start.readPush o.id o.start)] ++
  charEvents false v o.id (slotList shape 0) (presentFrom 0 o.chars) ++
  (o.items.map fun r => (EV_ITEM, encPlain v Item.readPush o.id r)) ++
  charEvents true v o.id (slotList shape 0) (presentFrom 0 o.chars) ++
  [(EV_FRAME_END, encPlain v End.readPush o.id o.fend)]

theorem presentFrom_ok (v : Ver) (n : Nat) (o : FrameOcc) (ho : o.OK v n) :
    ∀ co ∈ presentFrom 0 o.chars, co.1 < n ∧ OccOK v co.2 := by
  intro co hco
  have hk := (mem_presentFrom.mp hco).2
  exact ⟨ho.chars ▸ (List.getElem?_eq_some_iff.mp hk).1, ho.occ _ (List.mem_of_getElem? hk) co.2 rfl⟩

/-- **The frame body.**  Inside the open frame `o.id`, with ports that hold the history `h`, any body with the canonical
    per-character projections leaves ports that, once closed at `h.length + 1`, hold `h ++ [o]`. -/
theorem body_step {v : Ver} {shape : List PortOccupancy} {st : PState} (h : List FrameOcc) (o : FrameOcc) (body : List BEv)
    (w : InFrame v shape o.id st) (hP : st.frames.ports = expPorts shape h) (ho : o.OK v (nSlots shape))
    (hok : ∀ e ∈ body, e.OK v (nSlots shape))
    (hproj : ∀ c, (body.filterMap BEv.cev).filter (·.target == c) = (preC 0 o.chars ++ postC 0 o.chars).filter (·.target == c))
    (hit : body.filterMap BEv.itemRow ≠ [] → st.frames.item.isSome) :
    ∃ P, runEvents st (body.map (BEv.enc v o.id (slotList shape 0))) =
        .ok { st with frames := { st.frames with ports := P, item := st.frames.item.map (· ++ (body.filterMap BEv.itemRow).map some) } } ∧
      padPorts (h.length + 1) P = expPorts shape (h ++ [o]) := by
  obtain ⟨cs2, hrun, hpad⟩ := slots_frame_step (nSlots shape) (histAt h) h.length (by intro c; simp [histAt]) o.chars ho.chars
  obtain ⟨P, hrunP, hPs, hPf⟩ := w.run ho.id body hok hit
  refine ⟨P, hrunP, ports_ext _ _ ?_ ?_⟩
  · rw [shapeOf_padPorts, hPs, (expPorts_shape shape (h ++ [o])).1]
  · rw [hP, (expPorts_shape shape h).2, expFlat, runChars_perm _ _ _ hproj, hrun] at hPf
    · rw [flatSlots_padPorts, ← Option.some.inj hPf, hpad, (expPorts_shape shape (h ++ [o])).2]
      simp [expFlat, histAt]
    · intro e he
      rw [List.length_map, List.length_range, ← ho.chars]
      exact preC_postC_lt o.chars e he

/-- the canonical body of a frame as abstract events -/
def canonBody (o : FrameOcc) : List BEv :=
  (presentFrom 0 o.chars).map (fun co => BEv.pre co.1 co.2.pre) ++ o.items.map BEv.item ++
  (presentFrom 0 o.chars).map (fun co => BEv.post co.1 co.2.post)

theorem canonBody_enc (v : Ver) (shape : List PortOccupancy) (o : FrameOcc) :
    (canonBody o).map (BEv.enc v o.id (slotList shape 0)) =
      charEvents false v o.id (slotList shape 0) (presentFrom 0 o.chars) ++
      (o.items.map fun r => (EV_ITEM, encPlain v Item.readPush o.id r)) ++
      charEvents true v o.id (slotList shape 0) (presentFrom 0 o.chars) := by
  simp only [canonBody, List.map_append, List.map_map, charEvents]
  rfl

theorem canonBody_cev (o : FrameOcc) : (canonBody o).filterMap BEv.cev = preC 0 o.chars ++ postC 0 o.chars := by
  simp [canonBody, List.filterMap_append, List.filterMap_map, Function.comp_def, BEv.cev, preC, postC, slotEvs_eq_map]

theorem canonBody_items (o : FrameOcc) : (canonBody o).filterMap BEv.itemRow = o.items := by
  have hnone : ∀ l : List (Nat × CharOcc), l.filterMap (fun _ => (none : Option Row)) = [] := fun l => by induction l <;> simp_all
  simp [canonBody, List.filterMap_append, List.filterMap_map, Function.comp_def, BEv.itemRow, hnone]

theorem canonBody_ok (v : Ver) (shape : List PortOccupancy) (o : FrameOcc) (ho : o.OK v (nSlots shape)) :
    ∀ e ∈ canonBody o, e.OK v (nSlots shape) := by
  intro e he
  simp only [canonBody, List.mem_append, List.mem_map] at he
  rcases he with (⟨co, hco, rfl⟩ | ⟨r, hr, rfl⟩) | ⟨co, hco, rfl⟩
  · obtain ⟨h1, h2⟩ := presentFrom_ok v (nSlots shape) o ho co hco; exact ⟨h1, h2.1⟩
  · exact ho.items r hr
  · obtain ⟨h1, h2⟩ := presentFrom_ok v (nSlots shape) o ho co hco; exact ⟨h1, h2.2⟩

/-- a frame with its body events in any admissible order -/
def frameEventsP (v : Ver) (shape : List PortOccupancy) (o : FrameOcc) (body : List BEv) : List (Nat × Bytes) :=
  [(EV_FRAME_START, encPlain v Start.readPush o.id o.start)] ++ body.map (BEv.enc v o.id (slotList shape 0)) ++
  [(EV_FRAME_END, encPlain v End.readPush o.id o.fend)]

theorem frameEventsP_canon (v : Ver) (shape : List PortOccupancy) (o : FrameOcc) :
    frameEventsP v shape o (canonBody o) = frameEventsA v shape o := by
  simp only [frameEventsP, canonBody_enc, frameEventsA, List.append_assoc]

/-- admissible: the same events per character in the same order, and the same item sequence, as the canonical body -/
structure BodyOK (v : Ver) (n : Nat) (o : FrameOcc) (body : List BEv) : Prop where
  ok : ∀ e ∈ body, e.OK v n
  proj : ∀ c, (body.filterMap BEv.cev).filter (·.target == c) = ((canonBody o).filterMap BEv.cev).filter (·.target == c)
  items : body.filterMap BEv.itemRow = (canonBody o).filterMap BEv.itemRow

/-- **the frame step for any admissible order (≥ 3.0)**: Frame Start, `body_step`, Frame End -/
theorem frame_step_perm (v : Ver) (shape : List PortOccupancy) (h : List FrameOcc) (o : FrameOcc) (st : PState) (body : List BEv)
    (hv : st.start.version = v) (h30 : v.gte 3 0 = true) (h22 : v.gte 2 2 = true)
    (hfr : st.frames = expFrames v shape h)
    (hmap : PortMapOK st.portIdx shape) (hports : ∀ p ∈ shape, p.port < 256)
    (ho : o.OK v (nSlots shape)) (hb : BodyOK v (nSlots shape) o body) :
    runEvents st (frameEventsP v shape o body) = .ok { st with frames := expFrames v shape (h ++ [o]) } := by
  have hid : st.frames.id = h.map (·.id) := congrArg FCols.id hfr
  have hpo : st.frames.ports = expPorts shape h := congrArg FCols.ports hfr
  have hst := (congrArg FCols.start hfr).trans (expFrames_start shape h h22)
  have hfe := (congrArg FCols.fend hfr).trans (expFrames_fend shape h h30)
  have hio := (congrArg FCols.itemOff hfr).trans (expFrames_itemOff shape h h30)
  have hit := (congrArg FCols.item hfr).trans (expFrames_item shape h h30)
  -- Frame Start: `o.id` and the start row are pushed
  let s1 : PState := { st with frames := { st.frames with id := st.frames.id ++ [o.id],
                                                          start := some ((h.map fun o => some o.start) ++ [some o.start]) } }
  have e1 : handleEvent st EV_FRAME_START (encPlain v Start.readPush o.id o.start) = .ok s1 := by
    have := handle_fstart st o.id o.start _ hv ho.id ho.start hst
    simpa only [h30, ↓reduceIte] using this
  -- the body in the order given: the ports become `P`, the item rows are appended
  have w : InFrame v shape o.id s1 :=
    ⟨hv, (congrArg shapeOf hpo).trans (expPorts_shape shape h).1, hmap, hports, by simp [PState.lastId, s1]⟩
  have hproj : ∀ c, (body.filterMap BEv.cev).filter (·.target == c) = (preC 0 o.chars ++ postC 0 o.chars).filter (·.target == c) := by
    simpa [canonBody_cev] using hb.proj
  have hsome : s1.frames.item.isSome := by show st.frames.item.isSome = true; rw [hit]; rfl
  obtain ⟨P, e2, hP⟩ := body_step h o body w hpo ho hb.ok hproj (fun _ => hsome)
  let s2 : PState := { s1 with frames := { s1.frames with ports := P, item := s1.frames.item.map (· ++ o.items.map some) } }
  replace e2 : runEvents s1 (body.map (BEv.enc v o.id (slotList shape 0))) = .ok s2 := by rw [e2, hb.items, canonBody_items]
  -- Frame End: the end row and the item offset are pushed, the frame is closed
  have hitem : s2.frames.item = some ((h.flatMap (·.items)).map some ++ o.items.map some) := by
    show st.frames.item.map _ = _; rw [hit]; rfl
  have hmono : (offsOf h).getLastD 0 ≤ ((h.flatMap (·.items)).map some ++ o.items.map some).length := by
    rw [offsOf_last]; simp
  have e3 := handle_fend s2 o.id o.fend _ _ _ hv ho.id ho.fend (by simp [PState.lastId, s2, s1]) hfe hio hitem hmono
  -- the three steps in a row; the closed columns are those of `h ++ [o]`
  simp only [frameEventsP, List.cons_append, List.nil_append, runEvents, e1, runEvents_append, e2, e3]
  rw [expFrames_snoc shape h h30 o]
  simp only [s2, s1, FCols.close_eq, hid, hit, Option.map_some, List.length_append, List.length_map, List.length_cons, List.length_nil,
    Nat.zero_add, hP]

#print axioms frame_step_perm

theorem frame_step_A (v : Ver) (shape : List PortOccupancy) (h : List FrameOcc) (o : FrameOcc) (st : PState)
    (hv : st.start.version = v) (h30 : v.gte 3 0 = true) (h22 : v.gte 2 2 = true)
    (hfr : st.frames = expFrames v shape h)
    (hmap : PortMapOK st.portIdx shape) (hports : ∀ p ∈ shape, p.port < 256)
    (ho : o.OK v (nSlots shape)) :
    runEvents st (frameEventsA v shape o) = .ok { st with frames := expFrames v shape (h ++ [o]) } := by
  rw [← frameEventsP_canon]
  exact frame_step_perm v shape h o st _ hv h30 h22 hfr hmap hports ho ⟨canonBody_ok v shape o ho, fun _ => rfl, rfl⟩

#print axioms frame_step_A

theorem frames_perm (v : Ver) (shape : List PortOccupancy) (h30 : v.gte 3 0 = true) (h22 : v.gte 2 2 = true)
    (hports : ∀ p ∈ shape, p.port < 256) :
    ∀ (fr : List (FrameOcc × List BEv)) (h0 : List FrameOcc) (st : PState), st.start.version = v →
      st.frames = expFrames v shape h0 → PortMapOK st.portIdx shape →
      (∀ ob ∈ fr, ob.1.OK v (nSlots shape) ∧ BodyOK v (nSlots shape) ob.1 ob.2) →
      runEvents st (fr.flatMap fun ob => frameEventsP v shape ob.1 ob.2) =
        .ok { st with frames := expFrames v shape (h0 ++ fr.map Prod.fst) } := by
  intro fr h0 st hv hfr hmap hok
  -- `frame_step_perm` takes the columns of `h0` and the frames before `ob` to those with `ob.1` added
  have step : ∀ (pre : List (FrameOcc × List BEv)) (ob : FrameOcc × List BEv) (post : List (FrameOcc × List BEv))
      (f0 : FCols), fr = pre ++ ob :: post → f0 = expFrames v shape (h0 ++ pre.map Prod.fst) →
      ∃ f, runEvents { st with frames := f0 } (frameEventsP v shape ob.1 ob.2) = .ok { st with frames := f } ∧
        f = expFrames v shape (h0 ++ (pre ++ [ob]).map Prod.fst) := by
    intro pre ob post f0 hsplit hf
    obtain ⟨ho, hb⟩ := hok ob (by simp [hsplit])
    have hrun := frame_step_perm v shape (h0 ++ pre.map Prod.fst) ob.1 { st with frames := f0 } ob.2 hv h30 h22 hf hmap hports
      ho hb
    exact ⟨_, hrun, by simp⟩
  obtain ⟨f, e, rfl⟩ := runEvents_fold st (ev := fun ob : FrameOcc × List BEv => frameEventsP v shape ob.1 ob.2)
    (Inv := fun l f => f = expFrames v shape (h0 ++ l.map Prod.fst)) (l := fr) step st.frames (by simpa using hfr)
  exact e

/-- whole history at the event level (≥ 3.0): any number of frames -/
theorem frames_A (v : Ver) (shape : List PortOccupancy) (h0 h : List FrameOcc) (st : PState)
    (hv : st.start.version = v) (h30 : v.gte 3 0 = true) (h22 : v.gte 2 2 = true)
    (hfr : st.frames = expFrames v shape h0)
    (hmap : PortMapOK st.portIdx shape) (hports : ∀ p ∈ shape, p.port < 256)
    (hok : ∀ o ∈ h, o.OK v (nSlots shape)) :
    runEvents st (h.flatMap (frameEventsA v shape)) = .ok { st with frames := expFrames v shape (h0 ++ h) } := by
  have step : ∀ (pre : List FrameOcc) (o : FrameOcc) (post : List FrameOcc) (f0 : FCols),
      h = pre ++ o :: post → f0 = expFrames v shape (h0 ++ pre) →
      ∃ f, runEvents { st with frames := f0 } (frameEventsA v shape o) = .ok { st with frames := f } ∧
        f = expFrames v shape (h0 ++ (pre ++ [o])) := by
    intro pre o post f0 hsplit hf
    have ho : o.OK v (nSlots shape) := hok o (by simp [hsplit])
    have hrun := frame_step_A v shape (h0 ++ pre) o { st with frames := f0 } hv h30 h22 hf hmap hports ho
    exact ⟨_, hrun, by rw [List.append_assoc]⟩
  obtain ⟨f, e, rfl⟩ := runEvents_fold st (ev := frameEventsA v shape) (Inv := fun l f => f = expFrames v shape (h0 ++ l))
    (l := h) step st.frames (by simpa using hfr)
  exact e

#print axioms frames_A

end Peppi
