import Peppi.Lemmas.C12
/-! C12, prefix clause for **every** column: whatever the event (any code, any buffer, well-formed or not), every
    column of the in-progress frame set after the event is the old column with rows appended (`FCols.Ext`, ColsExt.lean). -/
namespace Peppi

/-- **C12 (prefix, all columns)**, the handler: every event code and buffer -/
theorem handleEvent_extends (st : PState) (code : Nat) (buf : Bytes) : Res.Post (ColsExtend st) (handleEvent st code buf) := by
  intro st' h
  exact (Res.wp_elim (handleEvent_spec st code buf) h).ext

/-- the id column only ever grows by appending -/
def IdsExtend (st st' : PState) : Prop := ∃ more, st'.frames.id = st.frames.id ++ more

/-- **C12 (monotonicity)**: after any event, the frame ids seen so far are a prefix of the new ones — rows are only appended,
    so the frame count never decreases -/
theorem handleEvent_ids (st : PState) (code : Nat) (buf : Bytes) : Res.Post (IdsExtend st) (handleEvent st code buf) := by
  intro st' h
  obtain ⟨⟨more, hm⟩, _⟩ := handleEvent_extends st code buf st' h
  exact ⟨more, hm.symm⟩

#print axioms handleEvent_ids

/-- **C12 at the level of `parse_event`**: one call of the incremental API only appends rows to the columns. -/
theorem parseEvent_extends (ps : ParseState) (bs : Bytes) (code : Nat) (ps' : ParseState) (rest : Bytes)
    (h : parseEvent ps bs = .ok ((code, ps'), rest)) : ps.st.frames.Ext ps'.st.frames := by
  obtain ⟨_, hext, _⟩ := Rd.wp_elim (parseEvent_spec ps bs) h
  exact hext

/-- **C12 over any number of calls**: the state after the whole event loop extends the state before it — so what the
    incremental API shows after any call is a prefix of what the loop finally holds. -/
theorem eventLoop_extends (fuel rawLen : Nat) (ps : ParseState) (bs : Bytes) (ps' : ParseState) (rest : Bytes)
    (h : eventLoop fuel rawLen ps bs = .ok (ps', rest)) : ps.st.frames.Ext ps'.st.frames := by
  -- the loop invariant is "extends `ps`": transitivity at a `parse_event` call, reflexivity where the loop is entered
  have step : ∀ (q : ParseState) (bs : Bytes), ps.st.frames.Ext q.st.frames →
      Rd.wp True (parseEvent q) (fun r _ => ps.st.frames.Ext r.2.st.frames) bs := by
    intro q bs hq
    refine Rd.wp_of_ok fun r rest hr => ?_
    have hcall : q.st.frames.Ext r.2.st.frames := parseEvent_extends q bs r.1 r.2 rest hr
    exact FCols.ext_trans _ _ _ hq hcall
  exact Res.wp_elim (eventLoop_wp (I := fun q _ => ps.st.frames.Ext q.st.frames) step fuel rawLen ps bs (FCols.ext_refl _)) h

/-- **C12 (final game)**: the one-shot reader *is* the incremental API driven to the end — header, start, one
    `parse_event` per iteration while `bytes_read < raw_len` (stopping at Game End), then the tail (`parse_metadata`).
    Definitional in the model; that the Rust `read` has this shape is part of the correspondence check, suites `inc` and `frag`. -/
theorem C12_final (T : TextOracle) (hash : Bool) (x : Bytes) :
    readP T { skipFrames := false, computeHash := hash } x =
      (match parseHeader x with
       | .ok (rawLen, r1) =>
         (match parseStart T r1 with
          | .ok (ps, r2) =>
            (match eventLoop (r2.length + 1) rawLen ps r2 with
             | .ok (ps', r3) => readTail T rawLen ps' r3
             | .err e => .err e
             | .panic p => .panic p)
          | .err e => .err e
          | .panic p => .panic p)
       | .err e => .err e
       | .panic p => .panic p) := by
  unfold readP loopTail
  simp only [bind, Bool.false_eq_true, ↓reduceIte, pure]
  rcases parseHeader x with ⟨rawLen, r1⟩ | e | p <;> try rfl
  dsimp only
  rcases parseStart T r1 with ⟨ps, r2⟩ | e | p <;> try rfl
  dsimp only
  rcases eventLoop (r2.length + 1) rawLen ps r2 with ⟨ps', r3⟩ | e | p <;> rfl
end Peppi
