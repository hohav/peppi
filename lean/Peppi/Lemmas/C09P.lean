import Peppi.Lemmas.C09
import Peppi.PeppiFmt
/-! `.slpp`: the reader's `assert_current_version` (io/peppi/mod.rs) and what it accepts (C18); C09 for the writer, which runs
    the same guard as `.slp` before any entry is produced. -/
namespace Peppi

/-- derived `PartialOrd` on `Version(u8, u8, u8)`: lexicographic -/
def pverLt (a b : Nat × Nat × Nat) : Bool :=
  decide (a.1 < b.1) || (a.1 == b.1 && (decide (a.2.1 < b.2.1) || (a.2.1 == b.2.1 && decide (a.2.2 < b.2.2))))

/-- `MIN_VERSION` of io/peppi/mod.rs (the suite `consts` compares it with the crate's) -/
def PEPPI_MIN_VERSION : Nat × Nat × Nat := (2, 0, 0)

/-- `assert_current_version` -/
def assertCurrentVersion (v : Nat × Nat × Nat) : Res Unit :=
  if pverLt v PEPPI_MIN_VERSION then .err "unsupported version" else .ok ()

/-- **C18 (version gate)**: an archive is accepted iff its format version is at least 2.0.0, i.e. iff its major is ≥ 2 —
    for all 2^24 triples -/
theorem assertCurrentVersion_iff (v : Nat × Nat × Nat) : assertCurrentVersion v = .ok () ↔ 2 ≤ v.1 := by
  obtain ⟨a, b, c⟩ := v
  unfold assertCurrentVersion pverLt PEPPI_MIN_VERSION
  simp only [Nat.not_lt_zero, decide_false, Bool.and_false, Bool.or_false]
  by_cases h : a < 2
  · simp [h]
  · simp [h]; omega

#print axioms assertCurrentVersion_iff

theorem C09_slpp_refuse (g : Game) (hash : Option String) (h : g.start.version.above) :
    peppiEntries g hash = .err "unsupported version" := by
  unfold peppiEntries
  simp only [bind, assertMaxVersion_above h]

/-- **C09**: both writers refuse exactly the versions above 3.16.0 at their first step -/
theorem C09_both (g : Game) (hash : Option String) (h : g.start.version.above) :
    writeSlp g = .err "unsupported version" ∧ peppiEntries g hash = .err "unsupported version" :=
  ⟨C09_slp_refuse g h, C09_slpp_refuse g hash h⟩

#print axioms C09_both
end Peppi
