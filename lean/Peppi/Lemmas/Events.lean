import Peppi.Lemmas.Flat
import Peppi.Lemmas.Handle
/-! What `handleEvent` does on the recorder's (canonical) encodings of the frame events: `handle_X` is what the arm
    `handleEvent_X` (Handle.lean) computes on an encoded payload. -/
namespace Peppi
open Extracted

/-- the frame ids an `i32` holds -/
def I32 (i : Int) : Prop := -2^31 ≤ i ∧ i < 2^31

theorem toInt32_ofInt32 (i : Int) (h : I32 i) : toInt32 (ofInt32 i) = i := by
  obtain ⟨h1, h2⟩ := h
  unfold toInt32 ofInt32
  by_cases h0 : 0 ≤ i
  · rw [if_pos h0, if_pos (by omega), Int.toNat_of_nonneg h0]
  · rw [if_neg h0, if_neg (by omega), Int.toNat_of_nonneg (by omega)]; omega
theorem ofInt32_lt (i : Int) (h : I32 i) : ofInt32 i < 256 ^ 4 := by
  unfold I32 at h; unfold ofInt32; split <;> omega

def encId (id : Int) : Bytes := toBE 4 (ofInt32 id)
theorem encId_length (id) : (encId id).length = 4 := toBE_length _ _

theorem i32At_enc (id : Int) (h : I32 id) (rest : Bytes) : i32At (encId id ++ rest) = .ok (id, rest) := by
  have hl := encId_length id
  unfold i32At
  have : ¬ ((encId id ++ rest).length < 4) := by simp [hl]
  simp only [this, ↓reduceIte]
  rw [List.take_left' hl, List.drop_left' hl]
  unfold encId
  rw [fromBE_toBE _ _ (ofInt32_lt id h), toInt32_ofInt32 id h]

theorem rowOrEof_enc (v : Ver) (L : List Fld) (row : Row) (h : RowOK v L row) : rowOrEof v L (writeRow v L row) = .ok row := by
  have := read_write v L row [] h
  rw [List.append_nil] at this
  unfold rowOrEof; rw [this]

theorem slotOk_eq (ports : List PCols) (pi : Nat) (fol : Bool) :
    slotOk ports pi fol = match (shapeOf ports)[pi]? with
      | none => .panic "ports index"
      | some o => if fol && !o.follower then .err "unexpected follower" else .ok pi := by
  unfold slotOk shapeOf
  rw [List.getElem?_map]
  cases ports[pi]? with
  | none => rfl
  | some p => cases hf : p.follower <;> simp [hf]

theorem slotOk_shape (a b : List PCols) (h : shapeOf a = shapeOf b) (pi : Nat) (fol : Bool) : slotOk a pi fol = slotOk b pi fol := by
  rw [slotOk_eq, slotOk_eq, h]

theorem slotIdx_close (st : PState) (port : Nat) (fol : Bool) (id : Int) :
    ({ st with frames := { st.frames.close with id := st.frames.id ++ [id] } } : PState).slotIdx port fol = st.slotIdx port fol := by
  unfold PState.slotIdx
  cases st.portIdx.getD port none with
  | none => rfl
  | some pi => exact slotOk_shape _ _ (shapeOf_padPorts _ st.frames.ports) pi fol

/-- payload of a Pre or Post event: frame id, port, follower flag, row -/
def encChar (v : Ver) (L : List Fld) (id : Int) (port : Nat) (fol : Bool) (row : Row) : Bytes :=
  encId id ++ ([UInt8.ofNat port, if fol then 1 else 0] ++ writeRow v L row)

/-- payload of a Frame Start, Item or Frame End event: frame id, row -/
def encPlain (v : Ver) (L : List Fld) (id : Int) (row : Row) : Bytes := encId id ++ writeRow v L row

theorem encPlain_length (v : Ver) (L : List Fld) (id : Int) (row : Row) (h : RowOK v L row) :
    (encPlain v L id row).length = 4 + rowSize v L := by
  simp [encPlain, encId_length, writeRow_length v L row h]
theorem encChar_length (v : Ver) (L : List Fld) (id : Int) (port : Nat) (fol : Bool) (row : Row) (h : RowOK v L row) :
    (encChar v L id port fol row).length = 6 + rowSize v L := by
  simp [encChar, encId_length, writeRow_length v L row h]; omega

theorem handle_post {v : Ver} (st : PState) (id : Int) (port : Nat) (fol : Bool) (row : Row) (pi : Nat)
    (hv : st.start.version = v) (hid : I32 id) (hport : port < 256) (hrow : RowOK v Post.readPush row)
    (hlast : st.lastId = some id) (hslot : st.slotIdx port fol = .ok pi) :
    handleEvent st EV_FRAME_POST (encChar v Post.readPush id port fol row) = .ok (st.updSlot pi fol (·.pushPost row)) := by
  subst hv
  rw [handleEvent_post, encChar, i32At_enc id hid]
  have hp : (UInt8.ofNat port).toNat = port := UInt8.toNat_ofNat_of_lt' hport
  have hf : ((if fol then (1 : UInt8) else 0) != 0) = fol := by cases fol <;> rfl
  have hlen : ¬ ((writeRow st.start.version Post.readPush row).length + 1 + 1 < 2) := Nat.not_lt.mpr (Nat.le_add_left 2 _)
  have hr := rowOrEof_enc st.start.version Post.readPush row hrow
  simp only [bind, pure, List.cons_append, List.nil_append, List.length_cons, List.getD_cons_zero, List.getD_cons_succ,
    List.drop_succ_cons, List.drop_zero, hp, hf, hlen, PState.expectId, hlast, ↓reduceIte, hslot, hr]

theorem handleEvent_pre_hdr (st : PState) (id : Int) (port : Nat) (fol : Bool) (w : Bytes) (hid : I32 id) (hport : port < 256) :
    handleEvent st EV_FRAME_PRE (encId id ++ ([UInt8.ofNat port, if fol then 1 else 0] ++ w)) = (do
      let _ ← st.slotIdx port fol
      let st' ← (if st.start.version.gte 2 2 then do st.expectId id; pure st
        else
          let last := st.lastId.getD (FIRST_INDEX - 1)
          if last + 1 ≤ 2147483647 ∧ last + 1 = id then
            pure { st with frames := { st.frames.close with id := st.frames.id ++ [id] } }
          else do st.expectId id; pure st)
      let pi ← st'.slotIdx port fol
      let row ← rowOrEof st.start.version Pre.readPush w
      pure (st'.updSlot pi fol (·.pushPre row))) := by
  rw [handleEvent_pre, i32At_enc id hid]
  have hp : (UInt8.ofNat port).toNat = port := UInt8.toNat_ofNat_of_lt' hport
  have hf : ((if fol then (1 : UInt8) else 0) != 0) = fol := by cases fol <;> rfl
  have hlen : ¬ (w.length + 1 + 1 < 2) := Nat.not_lt.mpr (Nat.le_add_left 2 _)
  simp only [bind, pure, List.cons_append, List.nil_append, List.length_cons, List.getD_cons_zero, List.getD_cons_succ,
    List.drop_succ_cons, List.drop_zero, hp, hf, hlen, ↓reduceIte]

/-- pre-frame event inside an already open frame (every pre event ≥ 2.2; the non-first ones < 2.2) -/
theorem handle_pre_open {v : Ver} (st : PState) (id : Int) (port : Nat) (fol : Bool) (row : Row) (pi : Nat)
    (hv : st.start.version = v) (hid : I32 id) (hport : port < 256) (hrow : RowOK v Pre.readPush row)
    (hlast : st.lastId = some id) (hslot : st.slotIdx port fol = .ok pi) :
    handleEvent st EV_FRAME_PRE (encChar v Pre.readPush id port fol row) = .ok (st.updSlot pi fol (·.pushPre row)) := by
  subst hv
  have hr := rowOrEof_enc st.start.version Pre.readPush row hrow
  have hne : ¬ (id + 1 ≤ 2147483647 ∧ id + 1 = id) := by omega
  rw [encChar, handleEvent_pre_hdr st id port fol _ hid hport]
  cases hv : st.start.version.gte 2 2 <;>
    simp only [bind, pure, hslot, PState.expectId, hlast, ↓reduceIte, hr, Bool.false_eq_true, Option.getD_some, hne]

/-- a pre-frame event carrying the next id acts as if the frame had been closed and the next one opened first -/
theorem pre_first_eq (st : PState) (id : Int) (port : Nat) (fol : Bool) (row : Row)
    (hid : I32 id) (hport : port < 256) (hv : st.start.version.gte 2 2 = false)
    (hnext : st.lastId.getD (FIRST_INDEX - 1) + 1 = id) :
    handleEvent st EV_FRAME_PRE (encChar st.start.version Pre.readPush id port fol row) =
      handleEvent { st with frames := { st.frames.close with id := st.frames.id ++ [id] } } EV_FRAME_PRE
        (encChar st.start.version Pre.readPush id port fol row) := by
  have hle : id ≤ 2147483647 := by unfold I32 at hid; omega
  have hne : ¬ (id + 1 ≤ 2147483647 ∧ id + 1 = id) := by omega
  have hlast' : ({ st with frames := { st.frames.close with id := st.frames.id ++ [id] } } : PState).lastId = some id := by
    simp [PState.lastId]
  rw [encChar, handleEvent_pre_hdr st id port fol _ hid hport, handleEvent_pre_hdr _ id port fol _ hid hport]
  simp only [bind, pure, hv, Bool.false_eq_true, ↓reduceIte, hnext, hle, and_self, slotIdx_close st port fol id,
    hlast', Option.getD_some, hne, PState.expectId]

/-- first pre-frame event of a frame before 2.2 -/
theorem handle_pre_first (st : PState) (id : Int) (port : Nat) (fol : Bool) (row : Row) (pi : Nat)
    (hid : I32 id) (hport : port < 256) (hrow : RowOK st.start.version Pre.readPush row)
    (hv : st.start.version.gte 2 2 = false)
    (hnext : st.lastId.getD (FIRST_INDEX - 1) + 1 = id)
    (hslot : st.slotIdx port fol = .ok pi) :
    handleEvent st EV_FRAME_PRE (encChar st.start.version Pre.readPush id port fol row) =
      .ok (({ st with frames := { st.frames.close with id := st.frames.id ++ [id] } } : PState).updSlot pi fol (·.pushPre row)) := by
  rw [pre_first_eq st id port fol row hid hport hv hnext]
  exact handle_pre_open _ id port fol row pi rfl hid hport hrow (by simp [PState.lastId]) ((slotIdx_close st port fol id).trans hslot)

theorem handle_item {v : Ver} (st : PState) (id : Int) (row : Row) (items : SCols)
    (hv : st.start.version = v) (hid : I32 id) (hrow : RowOK v Item.readPush row)
    (hlast : st.lastId = some id) (hitem : st.frames.item = some items) :
    handleEvent st EV_ITEM (encPlain v Item.readPush id row) =
      .ok { st with frames := { st.frames with item := some (items ++ [some row]) } } := by
  subst hv
  have hr := rowOrEof_enc st.start.version Item.readPush row hrow
  rw [handleEvent_item, encPlain, i32At_enc id hid]
  simp only [bind, pure, hitem, PState.expectId, hlast, ↓reduceIte, hr]

theorem handle_fstart {v : Ver} (st : PState) (id : Int) (row : Row) (sc : SCols)
    (hv : st.start.version = v) (hid : I32 id) (hrow : RowOK v Start.readPush row)
    (hstart : st.frames.start = some sc) :
    handleEvent st EV_FRAME_START (encPlain v Start.readPush id row) =
      .ok (let st' : PState := if v.gte 3 0 then st else { st with frames := st.frames.close }
           { st' with frames := { st'.frames with id := st'.frames.id ++ [id], start := some (sc ++ [some row]) } }) := by
  subst hv
  have hr := rowOrEof_enc st.start.version Start.readPush row hrow
  rw [handleEvent_frameStart, encPlain]
  cases hge : st.start.version.gte 3 0 <;>
    simp only [bind, pure, Ver.lt, hge, Bool.not_true, Bool.not_false, Bool.false_eq_true, ↓reduceIte, i32At_enc id hid, FCols.close, hstart, hr]

theorem handle_fend {v : Ver} (st : PState) (id : Int) (row : Row) (ec : SCols) (offs : List Nat) (items : SCols)
    (hv : st.start.version = v) (hid : I32 id) (hrow : RowOK v End.readPush row)
    (hlast : st.lastId = some id) (hend : st.frames.fend = some ec) (hoff : st.frames.itemOff = some offs)
    (hitem : st.frames.item = some items) (hmono : offs.getLastD 0 ≤ items.length) :
    handleEvent st EV_FRAME_END (encPlain v End.readPush id row) =
      .ok { st with frames := ({ st.frames with itemOff := some (offs ++ [items.length]), fend := some (ec ++ [some row]) } : FCols).close } := by
  subst hv
  have hr := rowOrEof_enc st.start.version End.readPush row hrow
  have : ¬ (items.length < offs.getLastD 0) := Nat.not_lt.mpr hmono
  rw [handleEvent_frameEnd, encPlain, i32At_enc id hid]
  simp only [bind, pure, hend, PState.expectId, hlast, ↓reduceIte, hoff, hitem, this, hr]

#print axioms handle_pre_first
#print axioms handle_fend
end Peppi
