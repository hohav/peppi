import Peppi.Lemmas.Transpose
/-! C14 at the level of the whole frame set: `from_struct_array ∘ (IPC validity normalisation) ∘ into_struct_array = id`
    in the rows model, nesting included (ports → leader/follower → pre/post; start; end; item list with offsets), and the
    same with the D2 repair (`intoF'` / `fromF'`: an `End` struct without fields is no Arrow child). -/
namespace Peppi

/-- a generated struct as Arrow sees it: primitive columns + optional validity -/
structure AStruct where
  cols : List (List Nat)
  valid : Option (List Bool)
  len : Nat
deriving DecidableEq

structure AData where
  pre : AStruct
  post : AStruct
  valid : Option (List Bool)

structure APort where
  port : Nat
  leader : AData
  follower : Option AData

structure AFrame where
  id : List Int
  ports : List APort
  start : Option AStruct
  fend : Option AStruct
  item : Option (List Nat × AStruct)

/-- widths (number of visible leaves at the version) of the five generated structs -/
structure Widths where
  pre : Nat
  post : Nat
  start : Nat
  fend : Nat
  item : Nat

def intoS (n : Nat) (rows : SCols) : AStruct := ⟨toCols n rows, validOfRows rows, rows.length⟩
def fromS (a : AStruct) : SCols := fromCols a.len a.cols a.valid

def intoD (w : Widths) (d : DCols) : AData := ⟨intoS w.pre d.pre, intoS w.post d.post, d.valid⟩
def fromD (a : AData) : DCols := ⟨fromS a.pre, fromS a.post, a.valid⟩

def intoP (w : Widths) (p : PCols) : APort := ⟨p.port, intoD w p.leader, p.follower.map (intoD w)⟩
def fromP (a : APort) : PCols := ⟨a.port, fromD a.leader, a.follower.map fromD⟩

/-- `Frame::into_struct_array` -/
def intoF (w : Widths) (f : FCols) : AFrame :=
  { id := f.id, ports := f.ports.map (intoP w), start := f.start.map (intoS w.start), fend := f.fend.map (intoS w.fend),
    item := match f.itemOff, f.item with | some o, some it => some (o, intoS w.item it) | _, _ => none }

/-- `Frame::from_struct_array` -/
def fromF (a : AFrame) : FCols :=
  { id := a.id, ports := a.ports.map fromP, start := a.start.map fromS, fend := a.fend.map fromS,
    itemOff := a.item.map (·.1), item := a.item.map (fun x => fromS x.2) }

/-- what Arrow IPC does to a validity bitmap: all-set comes back as absent -/
def normV (len : Nat) (v : Option (List Bool)) : Option (List Bool) :=
  match v with | some bs => if bs = List.replicate len true then none else some bs | none => none

def normS (a : AStruct) : AStruct := { a with valid := normV a.len a.valid }

theorem fromS_normS (a : AStruct) : fromS (normS a) = fromS a := by
  unfold fromS normS normV
  cases hv : a.valid with
  | none => rfl
  | some bs =>
    dsimp only
    split
    · rename_i hb; rw [hb]; exact (fromCols_allset a.len a.cols).symm
    · rfl

theorem fromS_intoS (n : Nat) (rows : SCols) (h : RowsOK n rows) : fromS (intoS n rows) = rows := by
  unfold fromS intoS; exact fromCols_toCols n rows h

theorem fromS_norm_intoS (n : Nat) (rows : SCols) (h : RowsOK n rows) : fromS (normS (intoS n rows)) = rows := by
  rw [fromS_normS, fromS_intoS n rows h]

/-- every generated struct in the frame set has rows of its version's width -/
structure FrameRowsOK (w : Widths) (f : FCols) : Prop where
  ports : ∀ p ∈ f.ports, RowsOK w.pre p.leader.pre ∧ RowsOK w.post p.leader.post ∧
    ∀ d, p.follower = some d → RowsOK w.pre d.pre ∧ RowsOK w.post d.post
  start : ∀ sc, f.start = some sc → RowsOK w.start sc
  fend : ∀ ec, f.fend = some ec → RowsOK w.fend ec
  item : ∀ it, f.item = some it → RowsOK w.item it
  itemBoth : f.itemOff.isSome = f.item.isSome

def normD (a : AData) : AData := ⟨normS a.pre, normS a.post, a.valid⟩
def normP (a : APort) : APort := ⟨a.port, normD a.leader, a.follower.map normD⟩
/-- the IPC round trip on the whole tree (the `Data`-level validity is kept as written: the model of `Data` stores it as is) -/
def normF (a : AFrame) : AFrame :=
  { a with ports := a.ports.map normP, start := a.start.map normS, fend := a.fend.map normS, item := a.item.map (fun x => (x.1, normS x.2)) }

theorem listMap_eq_self {α} {l : List α} {f : α → α} (h : ∀ a ∈ l, f a = a) : l.map f = l :=
  (List.map_congr_left h).trans (List.map_id' l)

theorem optionMap_eq_self {α} {o : Option α} {f : α → α} (h : ∀ a, o = some a → f a = a) : o.map f = o := by
  cases o with
  | none => rfl
  | some a => exact congrArg some (h a rfl)

theorem fromD_norm_intoD (w : Widths) (d : DCols) (h1 : RowsOK w.pre d.pre) (h2 : RowsOK w.post d.post) :
    fromD (normD (intoD w d)) = d := by
  unfold fromD normD intoD
  simp only [fromS_norm_intoS _ _ h1, fromS_norm_intoS _ _ h2]

theorem fromP_norm_intoP (w : Widths) (p : PCols) (h1 : RowsOK w.pre p.leader.pre) (h2 : RowsOK w.post p.leader.post)
    (h3 : ∀ d, p.follower = some d → RowsOK w.pre d.pre ∧ RowsOK w.post d.post) : fromP (normP (intoP w p)) = p := by
  obtain ⟨port, leader, follower⟩ := p
  simp only [fromP, normP, intoP, Option.map_map, PCols.mk.injEq, true_and]
  exact ⟨fromD_norm_intoD w leader h1 h2, optionMap_eq_self fun d hd => fromD_norm_intoD w d (h3 d hd).1 (h3 d hd).2⟩

/-- **C14 (import ∘ export = id)**, through the validity normalisation Arrow IPC performs -/
theorem fromF_norm_intoF (w : Widths) (f : FCols) (h : FrameRowsOK w f) : fromF (normF (intoF w f)) = f := by
  obtain ⟨ids, ports, start, fend, itemOff, item⟩ := f
  simp only [fromF, normF, intoF, List.map_map, Option.map_map, FCols.mk.injEq, true_and]
  refine ⟨listMap_eq_self fun p hp => ?_, optionMap_eq_self fun sc hsc => fromS_norm_intoS _ _ (h.start sc hsc),
    optionMap_eq_self fun ec hec => fromS_norm_intoS _ _ (h.fend ec hec), ?_⟩
  · obtain ⟨h1, h2, h3⟩ := h.ports p hp
    exact fromP_norm_intoP w p h1 h2 h3
  · -- offsets and items are there together (`itemBoth`): both absent, or both present
    match itemOff, item, h.itemBoth, h.item with
    | none, none, _, _ => exact ⟨rfl, rfl⟩
    | some _, some it, _, hit => exact ⟨rfl, congrArg some (fromS_norm_intoS _ _ (hit it rfl))⟩

#print axioms fromF_norm_intoF

/-- export with the D2 repair: a generated struct without any field at this version (`End` for 3.0 ≤ v < 3.7) cannot be an
    Arrow struct, so the `end` child is omitted -/
def intoF' (w : Widths) (f : FCols) : AFrame :=
  let a := intoF w f
  if w.fend = 0 then { a with fend := none } else a

/-- import with the D2 repair: when the version has an `End` struct (`hasEnd`) but the tree has no `end` child, rebuild the
    field-less struct with one (present, empty) row per frame -/
def fromF' (hasEnd : Bool) (a : AFrame) : FCols :=
  let f := fromF a
  match a.fend with
  | some _ => f
  | none => if hasEnd then { f with fend := some (List.replicate a.id.length (some [])) } else f

/-- **C14 with the D2 repair, every case**: `hasEnd` says whether there is an end column; a field-less one (`w.fend = 0`: its
    child is omitted and rebuilt) must have one present row per frame. -/
theorem fromF'_norm_intoF'_of (w : Widths) (f : FCols) (h : FrameRowsOK w f) (hasEnd : Bool) (hE : f.fend.isSome = hasEnd)
    (hpresent : w.fend = 0 → ∀ ec, f.fend = some ec → ec = List.replicate f.id.length (some [])) :
    fromF' hasEnd (normF (intoF' w f)) = f := by
  have hbase := fromF_norm_intoF w f h
  subst hE
  unfold fromF' intoF'
  by_cases hw : w.fend = 0
  · -- without the `end` child everything else comes back as before, and `end` is rebuilt
    have hrest : fromF (normF { (intoF w f) with fend := none }) = { f with fend := none } := by
      have : fromF (normF { (intoF w f) with fend := none }) = { (fromF (normF (intoF w f))) with fend := none } := rfl
      rw [this, hbase]
    simp only [hw, ↓reduceIte]
    rw [show (normF { (intoF w f) with fend := none }).fend = none from rfl, hrest]
    cases hfe : f.fend with
    | none => cases f; cases hfe; rfl
    | some ec =>
      rw [show (normF { (intoF w f) with fend := none }).id = f.id from rfl, ← hpresent hw ec hfe]
      cases f; cases hfe; rfl
  · simp only [hw, ↓reduceIte]
    rw [show (normF (intoF w f)).fend = (f.fend.map (intoS w.fend)).map normS from rfl, hbase]
    cases f.fend <;> rfl

/-- **C14 with a field-less `End`** (versions 3.0–3.6 after the D2 repair): the round trip is still the identity, provided the
    end column has one present row per frame — which the reader guarantees (Frame End is pushed, never nulled) -/
theorem fromF'_norm_intoF' (w : Widths) (f : FCols) (h : FrameRowsOK w f) (hw : w.fend = 0)
    (ec : SCols) (hfe : f.fend = some ec) (hpresent : ec = List.replicate f.id.length (some [])) :
    fromF' true (normF (intoF' w f)) = f := by
  have hE : f.fend.isSome = true := by rw [hfe]; rfl
  refine fromF'_norm_intoF'_of w f h true hE fun _ ec' hec' => ?_
  rw [hfe] at hec'
  cases hec'
  exact hpresent

#print axioms fromF'_norm_intoF'
end Peppi
