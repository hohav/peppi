import Peppi.Lemmas.Slots
/-! `Vec<PortData>` (leader + optional follower per port) as a flat list of character slots: `flatSlots`, the canonical
    slot order `slotList`, and `rebuild` back from a shape and a flat list. -/
namespace Peppi

def PCols.slots (p : PCols) : List DCols := p.leader :: (match p.follower with | some f => [f] | none => [])
def flatSlots (ports : List PCols) : List DCols := ports.flatMap PCols.slots

def PCols.nslots (p : PCols) : Nat := if p.follower.isSome then 2 else 1
theorem PCols.slots_length (p : PCols) : p.slots.length = p.nslots := by
  unfold PCols.slots PCols.nslots; cases p.follower <;> simp

def slotBase : List PCols → Nat → Nat
  | [], _ => 0
  | _ :: _, 0 => 0
  | p :: ps, pi+1 => p.nslots + slotBase ps pi

def slotIndex (ports : List PCols) (pi : Nat) (fol : Bool) : Nat := slotBase ports pi + (if fol then 1 else 0)

theorem PCols.updSlot_nslots (p : PCols) (fol : Bool) (f) : (p.updSlot fol f).nslots = p.nslots := by
  cases fol
  · rfl
  · simp only [PCols.updSlot, PCols.nslots, ↓reduceIte, Option.isSome_map]

theorem PCols.updSlot_slots (p : PCols) (fol : Bool) (f : DCols → DCols) (h : fol = true → p.follower.isSome) :
    (p.updSlot fol f).slots = p.slots.modify (if fol then 1 else 0) f := by
  unfold PCols.updSlot PCols.slots
  cases fol with
  | false => simp
  | true =>
    have := h rfl
    cases hf : p.follower with
    | none => simp [hf] at this
    | some d => simp

theorem modify_append_left {α} (a b : List α) (i : Nat) (f : α → α) (h : i < a.length) :
    (a ++ b).modify i f = a.modify i f ++ b := by
  induction a generalizing i with
  | nil => simp at h
  | cons x xs ih =>
    cases i with
    | zero => simp
    | succ i' => simp [ih i' (by simpa using h)]

theorem modify_append_right {α} (a b : List α) (i : Nat) (f : α → α) :
    (a ++ b).modify (a.length + i) f = a ++ b.modify i f := by
  induction a with
  | nil => simp
  | cons x xs ih =>
    have : xs.length + 1 + i = (xs.length + i) + 1 := Nat.add_right_comm _ 1 i
    simp [this, ih]

theorem flatSlots_updSlot (ports : List PCols) (pi : Nat) (fol : Bool) (f : DCols → DCols)
    (hpi : pi < ports.length) (hfol : fol = true → (ports[pi]).follower.isSome) :
    flatSlots (ports.modify pi (·.updSlot fol f)) = (flatSlots ports).modify (slotIndex ports pi fol) f := by
  induction ports generalizing pi with
  | nil => simp at hpi
  | cons p ps ih =>
    cases pi with
    | zero =>
      simp only [List.modify_zero_cons, flatSlots, List.flatMap_cons, slotIndex, slotBase, Nat.zero_add]
      simp only [List.getElem_cons_zero] at hfol
      rw [PCols.updSlot_slots p fol f hfol]
      rw [modify_append_left]
      rw [PCols.slots_length]; unfold PCols.nslots
      cases fol with
      | false => cases p.follower.isSome <;> decide
      | true => simp [hfol rfl]
    | succ pi' =>
      simp only [List.modify_succ_cons, flatSlots, List.flatMap_cons, slotIndex, slotBase]
      have := ih pi' (by simpa using hpi) (by simpa using hfol)
      simp only [flatSlots, slotIndex] at this
      rw [this, ← PCols.slots_length, Nat.add_assoc, modify_append_right]

theorem flatSlots_map (ports : List PCols) (g : DCols → DCols) :
    flatSlots (ports.map fun p => { p with leader := g p.leader, follower := p.follower.map g }) = (flatSlots ports).map g := by
  induction ports with
  | nil => rfl
  | cons p ps ih =>
    simp only [List.map_cons, flatSlots, List.flatMap_cons, List.map_append] at ih ⊢
    rw [ih]
    congr 1
    unfold PCols.slots
    cases p.follower <;> simp

theorem mem_flatSlots {P : List PCols} {p : PCols} (hp : p ∈ P) :
    p.leader ∈ flatSlots P ∧ ∀ f, p.follower = some f → f ∈ flatSlots P :=
  ⟨List.mem_flatMap.mpr ⟨p, hp, by simp [PCols.slots]⟩, fun f hf => List.mem_flatMap.mpr ⟨p, hp, by simp [PCols.slots, hf]⟩⟩

/-- shape (port numbers and which ports have a follower) -/
def shapeOf (ports : List PCols) : List PortOccupancy := ports.map fun p => ⟨p.port, p.follower.isSome⟩

theorem shapeOf_length (P : List PCols) : (shapeOf P).length = P.length := List.length_map _

theorem slotBase_shape (a b : List PCols) (h : shapeOf a = shapeOf b) (pi : Nat) : slotBase a pi = slotBase b pi := by
  induction a generalizing b pi with
  | nil => cases b with
    | nil => rfl
    | cons _ _ => cases h
  | cons p ps ih => cases b with
    | nil => cases h
    | cons q qs =>
      cases pi with
      | zero => rfl
      | succ pi' =>
        injection h with hpq hrest
        rw [slotBase, slotBase, ih qs hrest pi', PCols.nslots, PCols.nslots, (PortOccupancy.mk.inj hpq).2]

/-- slot descriptors in canonical order: (index into `ports`, follower?, port number) -/
def slotList : List PortOccupancy → Nat → List (Nat × Bool × Nat)
  | [], _ => []
  | p :: ps, pi => (pi, false, p.port) :: ((if p.follower then [(pi, true, p.port)] else []) ++ slotList ps (pi + 1))

theorem slotList_length (shape : List PortOccupancy) (pi0 : Nat) :
    (slotList shape pi0).length = (shape.map fun p => if p.follower then 2 else 1).sum := by
  induction shape generalizing pi0 with
  | nil => rfl
  | cons p ps ih =>
    rw [slotList, List.length_cons, List.length_append, ih, List.map_cons, List.sum_cons]
    cases p.follower
    · rw [if_neg Bool.false_ne_true, if_neg Bool.false_ne_true, List.length_nil]
      omega
    · rw [if_pos rfl, if_pos rfl, List.length_singleton]
      omega

theorem flatSlots_length (ports : List PCols) : (flatSlots ports).length = (slotList (shapeOf ports) 0).length := by
  rw [slotList_length]
  induction ports with
  | nil => rfl
  | cons p ps ih =>
    simp only [flatSlots, List.flatMap_cons, List.length_append, shapeOf, List.map_cons, List.sum_cons] at ih ⊢
    rw [ih, PCols.slots_length]; unfold PCols.nslots; rfl

def nSlots (shape : List PortOccupancy) : Nat := (slotList shape 0).length

theorem nSlots_cons (p : PortOccupancy) (ps : List PortOccupancy) :
    nSlots (p :: ps) = (if p.follower then 2 else 1) + nSlots ps := by
  simp only [nSlots, slotList_length, List.map_cons, List.sum_cons]

/-- slot `c` of the canonical list lives at flat index `c`, in a port of `ports` that has the character -/
theorem slotList_index (ports : List PCols) (pi0 : Nat) (c : Nat) (d : Nat × Bool × Nat)
    (h : (slotList (shapeOf ports) pi0)[c]? = some d) :
    ∃ k p, d.1 = pi0 + k ∧ ports[k]? = some p ∧ p.port = d.2.2 ∧ (d.2.1 = true → p.follower.isSome) ∧
      slotIndex ports k d.2.1 = c := by
  induction ports generalizing pi0 c with
  | nil => simp [shapeOf, slotList] at h
  | cons p ps ih =>
    simp only [shapeOf, List.map_cons, slotList] at h
    -- a slot of a later port: one port further, `p.nslots` flat slots further
    have tail : ∀ c', (slotList (shapeOf ps) (pi0 + 1))[c']? = some d → c = c' + p.nslots →
        ∃ k q, d.1 = pi0 + k ∧ (p :: ps)[k]? = some q ∧ q.port = d.2.2 ∧ (d.2.1 = true → q.follower.isSome) ∧
          slotIndex (p :: ps) k d.2.1 = c := by
      intro c' hc' hcc
      obtain ⟨k, q, h1, h2, h3, h4, h5⟩ := ih (pi0 + 1) c' hc'
      have hport : d.1 = pi0 + (k + 1) := by omega
      have hslot : slotIndex (p :: ps) (k + 1) d.2.1 = c := by
        simp only [slotIndex, slotBase] at h5 ⊢
        omega
      exact ⟨k + 1, q, hport, h2, h3, h4, hslot⟩
    cases c with
    | zero =>
      obtain rfl := Option.some.inj h
      exact ⟨0, p, rfl, rfl, rfl, nofun, rfl⟩
    | succ c' =>
      rw [List.getElem?_cons_succ] at h
      cases hf : p.follower.isSome with
      | false =>
        rw [hf, if_neg Bool.false_ne_true, List.nil_append] at h
        exact tail c' h (by rw [PCols.nslots, hf]; rfl)
      | true =>
        rw [hf, if_pos rfl, List.singleton_append] at h
        cases c' with
        | zero =>
          obtain rfl := Option.some.inj h
          exact ⟨0, p, rfl, rfl, rfl, fun _ => hf, rfl⟩
        | succ c'' =>
          rw [List.getElem?_cons_succ] at h
          exact tail c'' h (by rw [PCols.nslots, hf]; rfl)

/-- rebuild the ports from a shape and a flat slot list (a missing slot reads as `DCols.empty`; `flat_rebuild` assumes the
    right length) -/
def rebuild : List PortOccupancy → List DCols → List PCols
  | [], _ => []
  | p :: ps, slots =>
    if p.follower then
      ⟨p.port, slots.headD DCols.empty, some ((slots.drop 1).headD DCols.empty)⟩ :: rebuild ps (slots.drop 2)
    else ⟨p.port, slots.headD DCols.empty, none⟩ :: rebuild ps (slots.drop 1)

theorem rebuild_length (shape : List PortOccupancy) (slots : List DCols) : (rebuild shape slots).length = shape.length := by
  induction shape generalizing slots with
  | nil => rfl
  | cons q qs ih =>
    rw [rebuild]
    split <;> simp [ih]

theorem rebuild_flat (ports : List PCols) : rebuild (shapeOf ports) (flatSlots ports) = ports := by
  induction ports with
  | nil => rfl
  | cons p ps ih =>
    simp only [shapeOf, List.map_cons, flatSlots, List.flatMap_cons] at ih ⊢
    unfold rebuild
    cases hf : p.follower with
    | none => simp [PCols.slots, hf, ih]; cases p; simp_all
    | some d => simp [PCols.slots, hf, ih]; cases p; simp_all

theorem flat_rebuild (shape : List PortOccupancy) (flat : List DCols) (pi0 : Nat) (h : flat.length = (slotList shape pi0).length) :
    shapeOf (rebuild shape flat) = shape ∧ flatSlots (rebuild shape flat) = flat := by
  induction shape generalizing flat pi0 with
  | nil =>
    obtain rfl := List.eq_nil_of_length_eq_zero h
    exact ⟨rfl, rfl⟩
  | cons p ps ih =>
    obtain ⟨port, fol⟩ := p
    cases fol with
    | false =>
      match flat, h with
      | a :: t, h =>
        obtain ⟨h1, h2⟩ := ih t (pi0 + 1) (Nat.succ.inj h)
        exact ⟨congrArg (_ :: ·) h1, congrArg (a :: ·) h2⟩
    | true =>
      match flat, h with
      | a :: b :: t, h =>
        obtain ⟨h1, h2⟩ := ih t (pi0 + 1) (Nat.succ.inj (Nat.succ.inj h))
        exact ⟨congrArg (_ :: ·) h1, congrArg (a :: b :: ·) h2⟩

theorem rebuild_mem : ∀ (shape : List PortOccupancy) (slots : List DCols), slots.length = nSlots shape →
    ∀ p ∈ rebuild shape slots, p.leader ∈ slots ∧ ∀ f, p.follower = some f → f ∈ slots := by
  intro shape slots h p hp
  have := mem_flatSlots hp
  rwa [(flat_rebuild shape slots 0 h).2] at this

/-- rebuilding from empty column sets gives empty ports, however many are supplied (`headD` falls back to the empty set) -/
theorem rebuild_empty (shape : List PortOccupancy) (n : Nat) :
    rebuild shape (List.replicate n DCols.empty) =
      shape.map fun p => ⟨p.port, DCols.empty, if p.follower then some DCols.empty else none⟩ := by
  have hd : ∀ m, (List.replicate m DCols.empty).head?.getD DCols.empty = DCols.empty := fun m => by cases m <;> rfl
  induction shape generalizing n with
  | nil => rfl
  | cons p ps ih => cases hf : p.follower <;> simp [rebuild, hf, List.drop_replicate, hd, ih]

theorem shapeOf_updSlot (ports : List PCols) (pi : Nat) (fol : Bool) (f) :
    shapeOf (ports.modify pi (·.updSlot fol f)) = shapeOf ports := by
  unfold shapeOf
  apply List.ext_getElem (by simp)
  intro i h1 h2
  simp only [List.getElem_map, List.getElem_modify]
  split
  · unfold PCols.updSlot; split <;> simp
  · rfl

theorem ports_ext (a b : List PCols) (hs : shapeOf a = shapeOf b) (hf : flatSlots a = flatSlots b) : a = b := by
  rw [← rebuild_flat a, ← rebuild_flat b, hs, hf]

/-- what `FCols.close` does to the ports: every character padded with nulls up to `n` rows -/
def padPorts (n : Nat) (P : List PCols) : List PCols :=
  P.map fun p => { p with leader := p.leader.padTo n, follower := p.follower.map (·.padTo n) }

theorem FCols.close_eq (f : FCols) : f.close = { f with ports := padPorts f.id.length f.ports } := rfl

theorem shapeOf_padPorts (n : Nat) (P : List PCols) : shapeOf (padPorts n P) = shapeOf P := by
  simp only [shapeOf, padPorts, List.map_map]
  apply List.map_congr_left
  intro p _
  cases h : p.follower <;> simp [h]

theorem flatSlots_padPorts (n : Nat) (P : List PCols) : flatSlots (padPorts n P) = (flatSlots P).map (·.padTo n) :=
  flatSlots_map P (·.padTo n)

#print axioms flatSlots_updSlot
end Peppi
