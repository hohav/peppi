import Peppi.Lemmas.GenCor
import Peppi.Lemmas.Example
/-! Non-vacuity of `Irr.OK`: the example replays of `Example.lean` with unknown events spliced in, longer payloads, another order
    inside the frames.  The two substantial clauses (`erase`, `declared`) hold of these constructions over *every* well-formed
    replay (`irr_of_splice`, `irr_of_pad`); the kernel evaluates only the table and counts (`irrCheck`). -/
namespace Peppi
open Extracted

/-- unknown events (codes 0x50 and 0x51) spliced into an event stream -/
def spliceUnknown (es : List (Nat × Bytes)) : List (Nat × Bytes) :=
  [(0x50, [1, 2, 3])] ++ es.take 2 ++ [(0x50, [4, 5, 6]), (0x51, [9])] ++ es.drop 2 ++ [(0x50, [7, 8, 9]), (0x50, [0, 0, 0])]

def exIrr (v : Ver) (sl el : Nat) (gk : Option GeckoBlocks) (shape : List PortOccupancy) (frames : List FrameOcc) (junk : Bytes) : Irr :=
  { Irr.ofUnknown v sl el gk [(0x50, 3), (0x51, 1)] (spliceUnknown (canonEventsAny v shape frames)) junk with
    pre := if gk.isSome then [[(0x50, [1, 2, 3])], [(0x51, [9]), (0x50, [4, 5, 6])]] else [] }

theorem encEvents_length_le (es : List (Nat × Bytes)) (h : ∀ e ∈ es, e.2.length < 65536) :
    (encEvents es).length ≤ es.length * 65536 := by
  induction es with
  | nil => simp [encEvents]
  | cons e t ih =>
    have := h e (by simp)
    have := ih fun e' h' => h e' (by simp [h'])
    simp only [encEvents_cons, List.length_append, encEvent, List.length_cons]
    omega

theorem Replay.fileIrr_raw_length (r : Replay) (s : Start) (gk : Option GeckoBlocks) (i : Irr) :
    (r.fileIrr s gk i).raw.length = 3 + 3 * i.table.length + r.startBlock.length +
      (match gk with | some g => (g.encU i.pre).length | none => 0) + (encEvents i.mixed).length + (r.fileIrr s gk i).endPart.length := by
  -- the count of `GFile.raw_length` written out; `cases gk` because there the `match` stands under `length`
  rw [GFile.raw_length _ s, List.length_append]
  cases gk <;> simp only [Replay.fileIrr, ps0T, List.length_append, List.length_nil] <;> omega

/-- the side conditions of `Irr.OK` that are cheap to evaluate: everything about the table, the events in front of the splitters, the
    junk, and the length with every event of the stream counted as 2^16 bytes; `n` and `v` are the start block's length and version -/
def irrCheck (r : Replay) (s : Start) (n : Nat) (v : Ver) (gk : Option GeckoBlocks) (i : Irr) : Bool :=
  i.table.all (fun e => decide (e.1 < 256) && decide (0 < e.2) && decide (e.2 < 65536)) &&
  decide ((i.table.map Prod.fst).Nodup) &&
  decide (3 * i.table.length + 1 < 256) &&
  decide ((EV_GAME_START, n) ∈ i.table) && decide ((EV_GAME_END, r.endLen v) ∈ i.table) &&
  (gk.isNone || decide ((EV_SPLITTER, 516) ∈ i.table)) &&
  i.pre.all (fun u => u.all (fun e => !isKnown e.1 && decide (e.1 < 256) && decide ((e.1, e.2.length) ∈ i.table))) &&
  (i.junk.isEmpty || (r.fend.isSome && !r.doubled && !(decide (i.junk.length = 1 + endSize v) && decide (i.junk.head? = some 0x39)))) &&
  decide (3 + 3 * i.table.length + n + (match gk with | some g => (g.encU i.pre).length | none => 0) + i.mixed.length * 65536 +
    (r.fileIrr s gk i).endPart.length < 256 ^ 4)

/-- `Irr.OK` from its two substantial clauses and the evaluated rest -/
theorem irr_ok {T : TextOracle} {r : Replay} {s : Start} {gk : Option GeckoBlocks} (hb : r.WFAny T s gk) (i : Irr) {n : Nat} {v : Ver}
    (hn : r.startBlock.length = n) (hv : s.version = v)
    (herase : ∃ es, Longer (i.mixed.filter (fun e => isKnown e.1)) es ∧ CanonUpToOrder s r es)
    (hdecl : ∀ e ∈ i.mixed, e.1 < 256 ∧ (e.1, e.2.length) ∈ i.table)
    (hc : irrCheck r s n v gk i = true) : i.OK T r s gk := by
  subst hn hv
  simp only [irrCheck, Bool.and_eq_true, decide_eq_true_eq, List.all_eq_true, Bool.or_eq_true, Bool.not_eq_true',
    List.isEmpty_iff, Option.isSome_iff_exists, Bool.and_eq_false_iff, decide_eq_false_iff_not, Option.isNone_iff_eq_none] at hc
  obtain ⟨⟨⟨⟨⟨⟨⟨⟨hentries, hnd⟩, hlen⟩, hGS⟩, hGE⟩, hsp⟩, hpre⟩, hjunk⟩, hcount⟩ := hc
  have htab : TableOK i.table := by
    intro e he
    obtain ⟨⟨hbyte, hpos⟩, hlt⟩ := hentries e he
    exact ⟨hbyte, hpos, hlt⟩
  have hsplit : ∀ g, gk = some g → (EV_SPLITTER, 516) ∈ i.table := by
    intro g hg
    rcases hsp with h | h
    · rw [hg] at h
      cases h
    · exact h
  have hpreOK : ∀ u ∈ i.pre, ∀ e ∈ u, isKnown e.1 = false ∧ e.1 < 256 ∧ (e.1, e.2.length) ∈ i.table := by
    intro u hu e he
    obtain ⟨⟨hk, hbyte⟩, hmem⟩ := hpre u hu e he
    exact ⟨hk, hbyte, hmem⟩
  have hjunkOK : i.junk ≠ [] → (∃ e, r.fend = some e) ∧ r.doubled = false ∧ ¬ looksLikeEnd s.version i.junk := by
    intro hj
    rcases hjunk with h | ⟨⟨h, hd⟩, hn⟩
    · exact absurd h hj
    · refine ⟨h, hd, ?_⟩
      intro hl
      rcases hn with hn | hn
      · exact hn hl.1
      · exact hn hl.2
  -- every event of the stream is declared, so shorter than 2^16 bytes
  have hraw : (r.fileIrr s gk i).raw.length < 256 ^ 4 := by
    have := encEvents_length_le i.mixed fun e he => (htab _ (hdecl e he).2).2.2
    rw [Replay.fileIrr_raw_length]
    omega
  exact { base := hb, tableOK := htab, nodup := hnd, tableLen := hlen, declStart := hGS, declEnd := hGE, declSplit := hsplit,
          erase := herase, declared := hdecl, preOK := hpreOK, junkOK := hjunkOK, rawLen := hraw }

theorem filter_spliceUnknown (es : List (Nat × Bytes)) (h : ∀ e ∈ es, isKnown e.1 = true) :
    (spliceUnknown es).filter (fun e => isKnown e.1) = es := by
  have h1 : (es.take 2).filter (fun e => isKnown e.1) = es.take 2 := List.filter_eq_self.mpr fun e he => h e (List.mem_of_mem_take he)
  have h2 : (es.drop 2).filter (fun e => isKnown e.1) = es.drop 2 := List.filter_eq_self.mpr fun e he => h e (List.mem_of_mem_drop he)
  have h3 : ∀ l : List (Nat × Bytes), (∀ e ∈ l, isKnown e.1 = false) → l.filter (fun e => isKnown e.1) = [] :=
    fun l hl => List.filter_eq_nil_iff.mpr fun e he => by simp [hl e he]
  have u1 : ∀ e ∈ [((0x50, [1, 2, 3]) : Nat × Bytes)], isKnown e.1 = false := by decide
  have u2 : ∀ e ∈ [(0x50, [4, 5, 6]), ((0x51, [9]) : Nat × Bytes)], isKnown e.1 = false := by decide
  have u3 : ∀ e ∈ [(0x50, [7, 8, 9]), ((0x50, [0, 0, 0]) : Nat × Bytes)], isKnown e.1 = false := by decide
  simp only [spliceUnknown, List.filter_append, h1, h2, h3 _ u1, h3 _ u2, h3 _ u3, List.nil_append, List.append_nil]
  exact List.take_append_drop 2 es

theorem mem_spliceUnknown {es : List (Nat × Bytes)} {e : Nat × Bytes} (h : e ∈ spliceUnknown es) :
    e ∈ es ∨ e ∈ [(0x50, [1, 2, 3]), (0x50, [4, 5, 6]), (0x51, [9]), (0x50, [7, 8, 9]), ((0x50, [0, 0, 0]) : Nat × Bytes)] := by
  simp only [spliceUnknown, List.mem_append, List.mem_cons, List.not_mem_nil, or_false] at h ⊢
  rcases h with (((h | h) | h) | h) | h
  · exact Or.inr (Or.inl h)
  · exact Or.inl (List.mem_of_mem_take h)
  · rcases h with h | h
    · exact Or.inr (Or.inr (Or.inl h))
    · exact Or.inr (Or.inr (Or.inr (Or.inl h)))
  · exact Or.inl (List.mem_of_mem_drop h)
  · rcases h with h | h
    · exact Or.inr (Or.inr (Or.inr (Or.inr (Or.inl h))))
    · exact Or.inr (Or.inr (Or.inr (Or.inr (Or.inr h))))

/-- **unknown events spliced into the frame events of any well-formed replay** (in the recorder's order or another admissible one) -/
theorem irr_of_splice {T : TextOracle} {r : Replay} {s : Start} {gk : Option GeckoBlocks} (hb : r.WFAny T s gk) {n : Nat} {v : Ver}
    (hn : r.startBlock.length = n) (hv : s.version = v) {es : List (Nat × Bytes)} (hes : CanonUpToOrder s r es) (sl el : Nat) (i : Irr)
    (ht : i.table = canonTableAny s.version sl el gk ++ [(0x50, 3), (0x51, 1)]) (hm : i.mixed = spliceUnknown es)
    (hc : irrCheck r s n v gk i = true) : i.OK T r s gk := by
  have hsz := canonUpToOrder_sizes hb hes sl el
  have hknown : ∀ e ∈ es, isKnown e.1 = true := fun e he => isFrameEv_known (canonUpToOrder_codes hb hes e he)
  refine irr_ok hb i hn hv ⟨es, ?_, hes⟩ ?_ hc
  · rw [hm, filter_spliceUnknown es hknown]
    exact Longer.refl es
  · intro e he
    rw [ht]
    rw [hm] at he
    rcases mem_spliceUnknown he with h | h
    · obtain ⟨hfe, hmem⟩ := hsz e h
      exact ⟨isFrameEv_byte hfe, List.mem_append_left _ hmem⟩
    · have : ∀ e ∈ [(0x50, [1, 2, 3]), (0x50, [4, 5, 6]), (0x51, [9]), (0x50, [7, 8, 9]), ((0x50, [0, 0, 0]) : Nat × Bytes)],
          e.1 < 256 ∧ (e.1, e.2.length) ∈ [(0x50, 3), ((0x51, 1) : Nat × Nat)] := by decide +kernel
      exact ⟨(this e h).1, List.mem_append_right _ (this e h).2⟩

theorem irr_of_exIrr {T : TextOracle} {r : Replay} {s : Start} {gk : Option GeckoBlocks} (hb : r.WFAny T s gk) {n : Nat} {v : Ver}
    {shape : List PortOccupancy} (hs : r.startBlock.length = n ∧ s.version = v ∧ portOccupancy s = shape) (sl el : Nat)
    (hc : irrCheck r s n v gk (exIrr v sl el gk shape r.frames []) = true) :
    (exIrr s.version sl el gk (portOccupancy s) r.frames []).OK T r s gk := by
  obtain ⟨hn, rfl, rfl⟩ := hs
  exact irr_of_splice hb hn rfl (Or.inl rfl) sl el _ rfl rfl hc

/-- 3.16.0, unknown events between the frame events -/
theorem exampleIrr_A :
    (exIrr (startOf (exBlock 3 16 760)).version 760 6 none (portOccupancy (startOf (exBlock 3 16 760)))
      (exFrames [-123, -122, -122] 17 32 2 16 1 true) []).OK T0
      (exReplay (exBlock 3 16 760) (exFrames [-123, -122, -122] 17 32 2 16 1 true) [2, 255, 0, 1, 255, 255]) (startOf (exBlock 3 16 760)) none :=
  irr_of_exIrr example_A exStart_A.2 760 6 (by decide +kernel)

/-- 2.2.0 (Frame Start, no Frame End), unknown events between the frame events -/
theorem exampleIrr_B :
    (exIrr (startOf (exBlock 2 2 418)).version 418 2 none (portOccupancy (startOf (exBlock 2 2 418)))
      (exFrames [-123, -122, -122] 16 23 1 0 0 false) []).OK T0
      (exReplay (exBlock 2 2 418) (exFrames [-123, -122, -122] 16 23 1 0 0 false) [2, 255]) (startOf (exBlock 2 2 418)) none :=
  irr_of_exIrr example_B exStart_B.2 418 2 (by decide +kernel)

/-- 1.0.0 (frames opened by the first pre-frame event), unknown events between the frame events -/
theorem exampleIrr_C :
    (exIrr (startOf (exBlock 1 0 352)).version 352 1 none (portOccupancy (startOf (exBlock 1 0 352)))
      (exFrames [-123, -122, -121] 14 12 1 0 0 false) []).OK T0
      (exReplay (exBlock 1 0 352) (exFrames [-123, -122, -121] 14 12 1 0 0 false) [2]) (startOf (exBlock 1 0 352)) none :=
  irr_of_exIrr example_C exStart_C.2 352 1 (by decide +kernel)

/-- 3.16.0 with a Gecko block: unknown events before each of its two splitter events and after it -/
theorem exampleIrr_G :
    (exIrr (startOf (exBlock 3 16 760)).version 760 6 (some exGecko) (portOccupancy (startOf (exBlock 3 16 760)))
      (exFrames [-123, -122, -122] 17 32 2 16 1 true) []).OK T0
      (exReplay (exBlock 3 16 760) (exFrames [-123, -122, -122] 17 32 2 16 1 true) [2, 255, 0, 1, 255, 255]) (startOf (exBlock 3 16 760)) (some exGecko) :=
  irr_of_exIrr example_G exStart_A.2 760 6 (by decide +kernel)

/-- a replay of a version the library does not know yet (3.17.0) -/
theorem example_N : (exReplay (exBlock 3 17 760) (exFrames [-123, -122, -122] 17 32 2 16 1 true) [2, 255, 0, 1, 255, 255]).WFAny T0
    (startOf (exBlock 3 17 760)) none :=
  ex_wf exStart_N _ _ _ (by decide +kernel) (fun h => absurd h (by decide)) (fun _ h => by cases h)

/-- every frame event of a stream carries `n` extra trailing bytes (by event code) -/
def padEvents (es : List (Nat × Bytes)) : List (Nat × Bytes) :=
  es.map fun e => (e.1, e.2 ++ List.replicate (e.1 % 5 + 1) 0xEE)

/-- the version's table with the frame-event sizes grown by the same amounts -/
def padTable (t : List (Nat × Nat)) : List (Nat × Nat) :=
  t.map fun e => if isFrameEv e.1 then (e.1, e.2 + (e.1 % 5 + 1)) else e

theorem longer_padEvents (es : List (Nat × Bytes)) (h : ∀ e ∈ es, isFrameEv e.1 = true) : Longer (padEvents es) es := by
  induction es with
  | nil => exact .nil
  | cons e t ih => exact .ext e.1 e.2 _ _ _ (h e (by simp)) (ih fun e' h' => h e' (by simp [h']))

/-- **every frame event of any well-formed replay made longer**, with an unknown event in front, is tolerated -/
theorem irr_of_pad {T : TextOracle} {r : Replay} {s : Start} {gk : Option GeckoBlocks} (hb : r.WFAny T s gk) {n : Nat} {v : Ver}
    {shape : List PortOccupancy} (hs : r.startBlock.length = n ∧ s.version = v ∧ portOccupancy s = shape) (sl el : Nat)
    (hc : irrCheck r s n v gk
      { table := padTable (canonTableAny v sl el gk) ++ [(0x50, 3)],
        mixed := [(0x50, [1, 2, 3])] ++ padEvents (canonEventsAny v shape r.frames),
        junk := [] } = true) :
    ({ table := padTable (canonTableAny s.version sl el gk) ++ [(0x50, 3)],
       mixed := [(0x50, [1, 2, 3])] ++ padEvents (canonEventsAny s.version (portOccupancy s) r.frames),
       junk := [] } : Irr).OK T r s gk := by
  obtain ⟨hn, rfl, rfl⟩ := hs
  have hsz := canonEventsAny_sizes hb sl el
  have hfe := fun e he => (hsz e he).1
  refine irr_ok hb _ hn rfl ⟨_, ?_, Or.inl rfl⟩ ?_ hc
  · -- padding keeps the codes
    have hpadded : ∀ e' ∈ padEvents (canonEventsAny s.version (portOccupancy s) r.frames), isFrameEv e'.1 = true := by
      intro e' he'
      obtain ⟨e, he, rfl⟩ := List.mem_map.mp he'
      exact hfe e he
    simp only [List.filter_append, filter_isKnown_frameEvs hpadded]
    exact longer_padEvents _ hfe
  · intro e' he'
    simp only [List.mem_append, List.mem_singleton] at he' ⊢
    rcases he' with rfl | he'
    · exact ⟨by decide, Or.inr rfl⟩
    · obtain ⟨e, he, rfl⟩ := List.mem_map.mp he'
      refine ⟨isFrameEv_byte (hfe e he), Or.inl (List.mem_map.mpr ⟨_, (hsz e he).2, ?_⟩)⟩
      simp [hfe e he]

/-- **longer payloads from a newer version**: 3.17.0, every frame event longer than the library knows (1 to 5 extra bytes
    depending on the event), an unknown event in between -/
theorem exampleIrr_N :
    ({ table := padTable (canonTableAny (startOf (exBlock 3 17 760)).version 760 6 none) ++ [(0x50, 3)],
       mixed := [(0x50, [1, 2, 3])] ++ padEvents (canonEventsAny (startOf (exBlock 3 17 760)).version (portOccupancy (startOf (exBlock 3 17 760)))
         (exFrames [-123, -122, -122] 17 32 2 16 1 true)),
       junk := [] } : Irr).OK T0
      (exReplay (exBlock 3 17 760) (exFrames [-123, -122, -122] 17 32 2 16 1 true) [2, 255, 0, 1, 255, 255]) (startOf (exBlock 3 17 760)) none :=
  irr_of_pad example_N exStart_N.2 760 6 (by decide +kernel)

/-- a non-canonical order inside a frame: the item events first, then the pre-frame and the post-frame events -/
def itemsFirst (o : FrameOcc) : List BEv :=
  o.items.map BEv.item ++ ((presentFrom 0 o.chars).map (fun co => BEv.pre co.1 co.2.pre) ++
    (presentFrom 0 o.chars).map (fun co => BEv.post co.1 co.2.post))

theorem filterMap_none' {α β} (l : List α) : l.filterMap (fun _ => (none : Option β)) = [] := by
  induction l with
  | nil => rfl
  | cons a t ih => simp [ih]

theorem itemsFirst_ok (v : Ver) (shape : List PortOccupancy) (o : FrameOcc) (ho : o.OK v (nSlots shape)) :
    BodyOK v (nSlots shape) o (itemsFirst o) := by
  have hc := canonBody_ok v shape o ho
  refine ⟨?_, ?_, ?_⟩
  · intro e he
    apply hc
    simp only [itemsFirst, canonBody, List.mem_append] at he ⊢
    rcases he with h | h | h
    · exact Or.inl (Or.inr h)
    · exact Or.inl (Or.inl h)
    · exact Or.inr h
  · intro c
    have e1 : (itemsFirst o).filterMap BEv.cev = (canonBody o).filterMap BEv.cev := by
      simp [itemsFirst, canonBody, List.filterMap_append, List.filterMap_map, Function.comp_def, BEv.cev, filterMap_none']
    rw [e1]
  · simp [itemsFirst, canonBody, List.filterMap_append, List.filterMap_map, Function.comp_def, BEv.itemRow, filterMap_none']

/-- **the events inside every frame of any well-formed replay (≥ 3.0) in the order `itemsFirst`**, with unknown events spliced in,
    are tolerated -/
theorem irr_of_perm {T : TextOracle} {r : Replay} {s : Start} {gk : Option GeckoBlocks} (hb : r.WFAny T s gk) {n : Nat} {v : Ver}
    {shape : List PortOccupancy} (hs : r.startBlock.length = n ∧ s.version = v ∧ portOccupancy s = shape) (h30 : v.gte 3 0 = true)
    (sl el : Nat)
    (hc : irrCheck r s n v gk
      { table := canonTableAny v sl el gk ++ [(0x50, 3), (0x51, 1)],
        mixed := spliceUnknown ((r.frames.map fun o => (o, itemsFirst o)).flatMap fun ob => frameEventsP v shape ob.1 ob.2),
        junk := [] } = true) :
    ({ table := canonTableAny s.version sl el gk ++ [(0x50, 3), (0x51, 1)],
       mixed := spliceUnknown
         ((r.frames.map fun o => (o, itemsFirst o)).flatMap fun ob => frameEventsP s.version (portOccupancy s) ob.1 ob.2),
       junk := [] } : Irr).OK T r s gk := by
  obtain ⟨hn, rfl, rfl⟩ := hs
  have hperm : Permuted s.version (portOccupancy s) r (r.frames.map fun o => (o, itemsFirst o)) := by
    refine ⟨by simp [List.map_map, Function.comp_def], ?_⟩
    intro ob hob
    obtain ⟨o, ho, rfl⟩ := List.mem_map.mp hob
    exact itemsFirst_ok _ _ o (hb.frames o ho)
  exact irr_of_splice hb hn rfl (Or.inr ⟨h30, _, hperm, rfl⟩) sl el _ rfl rfl hc

/-- **events inside a frame in another order** (3.16.0): every frame's item events come before its character events, unknown
    events are spliced in between, the Ice Climbers follower is absent from the second occurrence -/
theorem exampleIrr_P :
    let r := exReplay (exBlock 3 16 760) (exFrames [-123, -122, -122] 17 32 2 16 1 true) [2, 255, 0, 1, 255, 255]
    let s := startOf (exBlock 3 16 760)
    let es := (r.frames.map fun o => (o, itemsFirst o)).flatMap fun ob => frameEventsP s.version (portOccupancy s) ob.1 ob.2
    ({ table := canonTableAny s.version 760 6 none ++ [(0x50, 3), (0x51, 1)], mixed := spliceUnknown es, junk := [] } : Irr).OK T0 r s none :=
  irr_of_perm example_A exStart_A.2 (by decide) 760 6 (by decide +kernel)

/-- the conclusion of `C17_any` holds of the 2.2.0 example with unknown events -/
theorem exampleIrr_B_fixedpoint :
    let r := exReplay (exBlock 2 2 418) (exFrames [-123, -122, -122] 16 23 1 0 0 false) [2, 255]
    let s := startOf (exBlock 2 2 418)
    let i := exIrr s.version 418 2 none (portOccupancy s) (exFrames [-123, -122, -122] 16 23 1 0 0 false) []
    ∃ g y, readSlp T0 { skipFrames := false, computeHash := false } (r.fileIrr s none i).encode = .ok g ∧ writeSlp g = .ok y ∧
      readSlp T0 { skipFrames := false, computeHash := false } y = .ok g := by
  intro r s i
  obtain ⟨_, _, hv, _⟩ := exStart_B
  -- (an equation about the `let`-bound `s` makes the kernel run `gameStart` when it meets `startOf _` written out)
  obtain ⟨g, y, h1, h2, _, h4, _⟩ := C17_any T0 r s none i exampleIrr_B (hv ▸ (by decide : assertMaxVersion ⟨2, 2, 0⟩ = .ok ()))
  exact ⟨g, y, h1, h2, h4⟩

end Peppi
