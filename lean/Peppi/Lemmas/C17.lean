import Peppi.Lemmas.GenCor
/-! C17 in the ≥ 3.0 regime for two irregularities, each for itself: declared unknown events, another order of the events inside
    a frame (`C17_any`, `GenCor.lean`, has every version and all of them). -/
namespace Peppi
open Extracted

/-- the raw length a canonical file declares is the length of its raw element -/
theorem encode_declares_actual (r : Replay) (v : Ver) (shape : List PortOccupancy) :
    ∃ rest, r.encode v shape = FILE_SIGNATURE ++ (toBE 4 (r.raw v shape).length ++ (r.raw v shape ++ rest)) := ⟨r.tail, rfl⟩

/-- **C17 (unknown events)** -/
theorem C17_unknown_A (T : TextOracle) (r : Replay) (s : Start) (u : Unknowns) (h : r.WFU T s u)
    (hmax : assertMaxVersion s.version = .ok ()) :
    ∃ g, readSlp T { skipFrames := false, computeHash := false } (r.encodeU s.version u) = .ok g ∧
      writeSlp g = .ok (r.encode s.version (portOccupancy s)) ∧
      readSlp T { skipFrames := false, computeHash := false } (r.encode s.version (portOccupancy s)) = .ok g := by
  obtain ⟨g, hread, hwrite⟩ := C01_A T r s h.base hmax
  have hread' : readSlp T { skipFrames := false, computeHash := false } (r.encode s.version (portOccupancy s)) = .ok g := hread
  refine ⟨g, ?_, hwrite, hread'⟩
  rw [C08_unknown_A T r s u h]
  exact hread'

#print axioms C17_unknown_A

/-- **C17 (event order inside a frame), file level**: the file with permuted frame bodies is read to exactly the game of
    the canonical file; hence it is written as the canonical file, which re-reads to the same game (a fixed point) -/
theorem C17_perm_A (T : TextOracle) (r : Replay) (s : Start) (h : r.WF T s) (fr : List (FrameOcc × List BEv))
    (hp : Permuted s.version (portOccupancy s) r fr)
    (hraw : (r.rawU s.version (permStream s.version (portOccupancy s) fr)).length < 256 ^ 4)
    (hmax : assertMaxVersion s.version = .ok ()) :
    ∃ g, readSlp T { skipFrames := false, computeHash := false } (r.encodeU s.version (permStream s.version (portOccupancy s) fr)) = .ok g ∧
      writeSlp g = .ok (r.encode s.version (portOccupancy s)) ∧
      readSlp T { skipFrames := false, computeHash := false } (r.encode s.version (portOccupancy s)) = .ok g := by
  -- the permuted file is the irregular file whose stream is an admissible reordering, with nothing else irregular
  have hfile : (r.fileIrr s none (Irr.ofOrder r s none (permStream s.version (portOccupancy s) fr).mixed)).raw =
      r.rawU s.version (permStream s.version (portOccupancy s) fr) := by
    rw [r.fileIrr_raw s none _ h.toAny.doubled_fend rfl]
    simp [Replay.fileIrr, Irr.ofOrder, canonTableAny, h.v30, Replay.rawU, canonTableU, permStream, tablePrefix]
  have hrawF : (r.fileIrr s none (Irr.ofOrder r s none (permStream s.version (portOccupancy s) fr).mixed)).raw.length < 256 ^ 4 := by
    rw [hfile]
    exact hraw
  have horder : CanonUpToOrder s r (permStream s.version (portOccupancy s) fr).mixed := Or.inr ⟨h.v30, fr, hp, rfl⟩
  obtain ⟨g, h1, h2, h3⟩ := C17_irregular T r s none _ (Irr.ofOrder_ok h.toAny horder hrawF) hmax
  rw [GFile.encode, hfile] at h1
  rw [h.encodeAny_eq] at h2 h3
  exact ⟨g, h1, h2, h3⟩

#print axioms C17_perm_A

end Peppi
