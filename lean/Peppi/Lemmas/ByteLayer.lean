import Peppi.Lemmas.CharRun
import Peppi.Lemmas.HandleSpec
/-! From encoded bytes to events: `parseEvent` and `eventLoop` on concatenations of encoded events. -/
namespace Peppi

/-- raw-stream encoding of one event: command byte, payload -/
def encEvent (e : Nat × Bytes) : Bytes := UInt8.ofNat e.1 :: e.2
def encEvents (es : List (Nat × Bytes)) : Bytes := es.flatMap encEvent

theorem encEvents_nil : encEvents [] = [] := rfl

theorem encEvents_cons (e : Nat × Bytes) (es : List (Nat × Bytes)) : encEvents (e :: es) = encEvent e ++ encEvents es := by
  simp [encEvents, List.flatMap_cons]
theorem encEvents_append (a b : List (Nat × Bytes)) : encEvents (a ++ b) = encEvents a ++ encEvents b := by
  simp [encEvents, List.flatMap_append]

theorem encEvents_cons_length (e : Nat × Bytes) (es : List (Nat × Bytes)) :
    (encEvents (e :: es)).length = e.2.length + 1 + (encEvents es).length := by
  rw [encEvents_cons, List.length_append, encEvent, List.length_cons]

theorem events_le_bytes (es : List (Nat × Bytes)) : es.length ≤ (encEvents es).length := by
  induction es with
  | nil => exact Nat.le_refl _
  | cons e es ih =>
    rw [encEvents_cons_length, List.length_cons]
    omega

theorem parseEvent_enc (ps : ParseState) (code : Nat) (buf rest : Bytes) (hc : code < 256) (hns : code ≠ EV_SPLITTER)
    (hsize : sizeOfEv ps.st.sizes code = some buf.length) :
    parseEvent ps (encEvent (code, buf) ++ rest) =
      match handleEvent ps.st code buf with
      | .ok st' => .ok ((code, { st := st', bytesRead := ps.bytesRead + buf.length + 1 }), rest)
      | .err e => .err e
      | .panic p => .panic p := by
  -- command byte, size from the table, payload, no un-wrapping, handler
  rw [parseEvent, encEvent, List.cons_append, Rd.bind_ok (Rd.u8_ofNat hc _)]
  simp only [hsize]
  rw [Rd.bind_ok (Rd.take_append buf rest rfl), if_neg hns, Rd.bind_ok (a := (code, buf, ps.st)) rfl, Rd.lift_bind]
  cases handleEvent ps.st code buf <;> rfl

/-- one turn of the loop (`rawLen = 0`: an in-progress replay) -/
theorem eventLoop_step {fuel rawLen : Nat} {ps ps' : ParseState} {bs rest : Bytes} {code : Nat}
    (hp : parseEvent ps bs = .ok ((code, ps'), rest)) (hne : code ≠ EV_GAME_END)
    (hraw : rawLen = 0 ∨ ps.bytesRead < rawLen) :
    eventLoop (fuel + 1) rawLen ps bs = eventLoop fuel rawLen ps' rest := by
  rw [eventLoop_succ, if_pos hraw, hp]
  exact if_neg hne

theorem eventLoop_done (fuel rawLen : Nat) (ps : ParseState) (bs : Bytes) (h0 : rawLen ≠ 0) (hbr : ¬ ps.bytesRead < rawLen) :
    eventLoop (fuel + 1) rawLen ps bs = .ok (ps, bs) := by
  rw [eventLoop_succ]; simp [h0, hbr]

theorem loop_end (k rawLen : Nat) (ps : ParseState) (e : Bytes) (ge : End) (rest : Bytes)
    (hsz : sizeOfEv ps.st.sizes EV_GAME_END = some e.length) (hge : gameEnd e = .ok ge) (hbr : ps.bytesRead < rawLen) :
    eventLoop (k + 1) rawLen ps (encEvent (EV_GAME_END, e) ++ rest) =
      .ok ({ st := { ps.st with fend := some ge }, bytesRead := ps.bytesRead + e.length + 1 }, rest) := by
  rw [eventLoop_succ, if_pos (.inr hbr), parseEvent_enc ps EV_GAME_END e rest (by decide) (by decide) hsz,
    handleEvent_gameEnd, hge]
  rfl

/-- the loop consumes a run of encoded events none of which is Game End, ends in the state `runEvents` gives, and has counted the bytes -/
theorem eventLoop_run (rawLen : Nat) (es : List (Nat × Bytes)) :
    ∀ (fuel : Nat) (ps : ParseState) (st' : PState) (rest : Bytes),
      es.length ≤ fuel →
      (∀ e ∈ es, e.1 < 256 ∧ e.1 ≠ EV_SPLITTER ∧ e.1 ≠ EV_GAME_END ∧ sizeOfEv ps.st.sizes e.1 = some e.2.length) →
      runEvents ps.st es = .ok st' →
      (rawLen = 0 ∨ ps.bytesRead + (encEvents es).length ≤ rawLen) →
      eventLoop (fuel + 1) rawLen ps (encEvents es ++ rest) =
        eventLoop (fuel + 1 - es.length) rawLen { st := st', bytesRead := ps.bytesRead + (encEvents es).length } rest := by
  induction es with
  | nil =>
    intro fuel ps st' rest _ _ hrun _
    cases hrun
    rfl
  | cons e es ih =>
    intro fuel ps st' rest hfuel hall hrun hlen
    obtain ⟨hc, hns, hne, hsz⟩ := hall e List.mem_cons_self
    obtain ⟨s1, hh, hrun⟩ := runEvents_cons_inv hrun
    obtain ⟨fuel, rfl⟩ : ∃ f, fuel = f + 1 := ⟨fuel - 1, by rw [List.length_cons] at hfuel; omega⟩
    have hsizes : s1.sizes = ps.st.sizes := congrArg (·.1) (handleEvent_ctx ps.st s1 e.1 e.2 hh)
    have hstep : parseEvent ps (encEvent e ++ (encEvents es ++ rest)) =
        .ok ((e.1, ⟨s1, ps.bytesRead + e.2.length + 1⟩), encEvents es ++ rest) := by
      rw [show e = (e.1, e.2) from rfl, parseEvent_enc ps e.1 e.2 _ hc hns hsz, hh]
    have hbytes : (encEvents (e :: es)).length = e.2.length + 1 + (encEvents es).length := encEvents_cons_length e es
    have hcond : rawLen = 0 ∨ ps.bytesRead < rawLen := hlen.imp_right fun h => by omega
    have hlen' : rawLen = 0 ∨ ps.bytesRead + e.2.length + 1 + (encEvents es).length ≤ rawLen :=
      hlen.imp_right fun h => by omega
    have hfuel' : es.length ≤ fuel := Nat.le_of_succ_le_succ hfuel
    have hall' : ∀ e' ∈ es, e'.1 < 256 ∧ e'.1 ≠ EV_SPLITTER ∧ e'.1 ≠ EV_GAME_END ∧
        sizeOfEv s1.sizes e'.1 = some e'.2.length :=
      fun e' he' => hsizes ▸ hall e' (List.mem_cons_of_mem _ he')
    have hih := ih fuel ⟨s1, ps.bytesRead + e.2.length + 1⟩ st' rest hfuel' hall' hrun hlen'
    -- fuel left and bytes counted, as the induction hypothesis has them
    have hf : fuel + 1 + 1 - (e :: es).length = fuel + 1 - es.length := by rw [List.length_cons, Nat.add_sub_add_right]
    have hb : ps.bytesRead + (encEvents (e :: es)).length = ps.bytesRead + e.2.length + 1 + (encEvents es).length := by omega
    rw [hf, hb, encEvents_cons, List.append_assoc, eventLoop_step hstep hne hcond, hih]

#print axioms eventLoop_run
end Peppi
