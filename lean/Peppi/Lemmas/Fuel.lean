import Peppi.Lemmas.NoPanic
/-! Above the input length the amount of fuel does not matter: `eventLoop`, `toVal` and `readMapLoop` recurse with one unit of fuel
    less only after a byte has been consumed.  One walk each through the combinator form of the reader with the closure lemmas of
    `Rd.AgreeBelow`; `local_of_fuel` then makes a reader that chooses its fuel from the input length local. -/
namespace Peppi

theorem parseEvent_nil (ps : ParseState) (r : Nat × ParseState) : parseEvent ps [] ≠ .ok (r, []) := nofun

theorem parseEvent_consumes (ps : ParseState) (bs : Bytes) (r) (rest : Bytes) (h : parseEvent ps bs = .ok (r, rest)) :
    rest.length < bs.length :=
  (local_parseEvent ps).lt (parseEvent_nil ps) h

/-- the two readers give the same result on every input shorter than `k` -/
def Rd.AgreeBelow {α} (k : Nat) (p q : Rd α) : Prop := ∀ bs, bs.length < k → p bs = q bs

namespace Rd.AgreeBelow
variable {α β : Type} {k : Nat}

theorem refl {p : Rd α} : Rd.AgreeBelow k p p := fun _ _ => rfl

theorem zero {p q : Rd α} : Rd.AgreeBelow 0 p q := fun _ h => absurd h (Nat.not_lt_zero _)

theorem ite {c : Prop} [Decidable c] {p p' q q' : Rd α} (hp : Rd.AgreeBelow k p p') (hq : Rd.AgreeBelow k q q') :
    Rd.AgreeBelow k (if c then p else q) (if c then p' else q') := by
  split
  · exact hp
  · exact hq

/-- a local first step does not lengthen the input: what follows is run below `k` again -/
theorem bind {p p' : Rd α} {f f' : α → Rd β} (hp : Rd.AgreeBelow k p p') (hl : Rd.Local p)
    (hf : ∀ a, Rd.AgreeBelow k (f a) (f' a)) : Rd.AgreeBelow k (p >>= f) (p' >>= f') := by
  intro bs hbs
  rw [Rd.bind_def, Rd.bind_def, ← hp bs hbs]
  cases h : p bs with
  | ok ar => exact hf ar.1 ar.2 (Nat.lt_of_le_of_lt (hl.le h) hbs)
  | err e => rfl
  | panic s => rfl

/-- a local first step that rejects the empty input consumes a byte: what follows is run one level lower -/
theorem bind_lt {p : Rd α} {f f' : α → Rd β} (hl : Rd.Local p) (h0 : ∀ a, p [] ≠ .ok (a, []))
    (hf : ∀ a, Rd.AgreeBelow k (f a) (f' a)) : Rd.AgreeBelow (k + 1) (p >>= f) (p >>= f') := by
  intro bs hbs
  rw [Rd.bind_def, Rd.bind_def]
  cases h : p bs with
  | ok ar => exact hf ar.1 ar.2 (Nat.lt_of_lt_of_le (hl.lt h0 h) (Nat.le_of_lt_succ hbs))
  | err e => rfl
  | panic s => rfl

theorem byteCase {f g : UInt8 → Rd α} (h : ∀ b, Rd.AgreeBelow k (f b) (g b)) :
    Rd.AgreeBelow (k + 1) (byteCase f) (byteCase g)
  | [], _ => rfl
  | b :: t, hbs => h b t (Nat.lt_of_succ_lt_succ hbs)

end Rd.AgreeBelow

theorem evL_agree (rawLen : Nat) : ∀ k f1 f2, k ≤ f1 → k ≤ f2 → ∀ ps, Rd.AgreeBelow k (evL f1 rawLen ps) (evL f2 rawLen ps)
  | 0, _, _, _, _, _ => .zero
  | k + 1, f1 + 1, f2 + 1, h1, h2, ps => by
    rw [evL_succ, evL_succ]
    exact .ite (.bind_lt (local_parseEvent ps) (parseEvent_nil ps) fun r =>
      .ite .refl (evL_agree rawLen k f1 f2 (Nat.le_of_succ_le_succ h1) (Nat.le_of_succ_le_succ h2) r.2)) .refl

/-- with enough fuel, `eventLoop` never fails for lack of it: its result does not depend on the fuel -/
theorem eventLoop_fuel : ∀ (f1 f2 rawLen : Nat) (ps : ParseState) (bs : Bytes), bs.length < f1 → bs.length < f2 →
    eventLoop f1 rawLen ps bs = eventLoop f2 rawLen ps bs := fun f1 f2 rawLen ps bs h1 h2 =>
  evL_agree rawLen (bs.length + 1) f1 f2 h1 h2 ps bs (Nat.lt_succ_self _)

#print axioms eventLoop_fuel

/-- a successful loop is unchanged by more fuel, whatever the fuel (`eventLoop_fuel` asks for fuel above the input length) -/
theorem eventLoop_mono (rawLen : Nat) : ∀ (f f' : Nat) (ps : ParseState) (bs : Bytes) (r : ParseState × Bytes), f ≤ f' →
    eventLoop f rawLen ps bs = .ok r → eventLoop f' rawLen ps bs = .ok r
  | 0, _, _, _, _, _, h => nomatch h
  | f + 1, 0, _, _, _, hle, _ => absurd hle (Nat.not_succ_le_zero f)
  | f + 1, f' + 1, ps, bs, r, hle, h => by
    rw [eventLoop_succ] at h ⊢
    split at h <;> rename_i hc
    · rw [if_pos hc]
      split at h  -- on the result of `parse_event`, in the goal as well
      · split at h <;> rename_i hcode
        · rw [if_pos hcode]
          exact h
        · rw [if_neg hcode]
          exact eventLoop_mono rawLen f f' _ _ r (Nat.le_of_succ_le_succ hle) h
      · cases h
      · cases h
    · rw [if_neg hc]
      exact h

theorem toVal_nil (utf8 : Bytes → Bool) (fuel d : Nat) (t : Tree) : toVal utf8 fuel d [] ≠ .ok (t, []) := by
  cases fuel <;> simp [toVal]

theorem readMapLoop_nil (utf8 : Bytes → Bool) (fuel d : Nat) (acc m : KVs) : readMapLoop utf8 fuel d [] acc ≠ .ok (m, []) := by
  cases fuel with
  | zero => simp [readMapLoop]
  | succ f =>
    simp only [readMapLoop]
    split <;> simp

theorem ubj_shrinks (utf8 : Bytes → Bool) : ∀ fuel : Nat,
    (∀ d bs t r, toVal utf8 fuel d bs = .ok (t, r) → r.length < bs.length) ∧
    (∀ d bs acc m r, readMapLoop utf8 fuel d bs acc = .ok (m, r) → r.length < bs.length) := fun fuel =>
  ⟨fun d _ _ _ h => ((ubj_local utf8 fuel).1 d).lt (toVal_nil utf8 fuel d) h,
   fun d _ acc _ _ h => ((ubj_local utf8 fuel).2 d acc).lt (readMapLoop_nil utf8 fuel d acc) h⟩

theorem ubj_agree (utf8 : Bytes → Bool) : ∀ k f1 f2, k ≤ f1 → k ≤ f2 →
    (∀ d, Rd.AgreeBelow k (toVal utf8 f1 d) (toVal utf8 f2 d)) ∧
    (∀ d acc, Rd.AgreeBelow k (fun bs => readMapLoop utf8 f1 d bs acc : Rd KVs) (fun bs => readMapLoop utf8 f2 d bs acc))
  | 0, _, _, _, _ => ⟨fun _ => .zero, fun _ _ => .zero⟩
  | k + 1, f1 + 1, f2 + 1, h1, h2 => by
    have ih := ubj_agree utf8 k f1 f2 (Nat.le_of_succ_le_succ h1) (Nat.le_of_succ_le_succ h2)
    refine ⟨fun d => ?_, fun d acc => ?_⟩
    · rw [toVal_succ, toVal_succ]
      refine .byteCase fun b => ?_
      refine .ite .refl ?_  -- 0x53, a string
      refine .ite .refl ?_  -- 0x6c, an integer
      -- 0x7b, a nested map: the one branch that passes the fuel on, behind the byte read
      exact .ite (.bind (ih.2 _ _) ((ubj_local utf8 f1).2 _ _) fun _ => .refl) .refl
    · rw [readMapLoop_succ, readMapLoop_succ]
      refine .ite .refl ?_  -- too deep
      refine .byteCase fun b => ?_
      refine .ite .refl ?_  -- 0x7d, the end of the map
      -- 0x55, a key: the value and the rest of the map are read with the fuel passed on, behind the byte read
      exact .ite (.bind .refl (local_toUtf8 utf8) fun key => .bind (ih.1 d) ((ubj_local utf8 f1).1 d) fun v => ih.2 d _) .refl

/-- with enough fuel the UBJSON readers' results do not depend on it -/
theorem ubj_fuel (utf8 : Bytes → Bool) : ∀ f1 : Nat,
    (∀ f2 d bs, bs.length < f1 → bs.length < f2 → toVal utf8 f1 d bs = toVal utf8 f2 d bs) ∧
    (∀ f2 d bs acc, bs.length < f1 → bs.length < f2 → readMapLoop utf8 f1 d bs acc = readMapLoop utf8 f2 d bs acc) := fun f1 =>
  ⟨fun f2 d bs h1 h2 => (ubj_agree utf8 (bs.length + 1) f1 f2 h1 h2).1 d bs (Nat.lt_succ_self _),
   fun f2 d bs acc h1 h2 => (ubj_agree utf8 (bs.length + 1) f1 f2 h1 h2).2 d acc bs (Nat.lt_succ_self _)⟩

#print axioms ubj_fuel

theorem local_of_fuel {α} (p : Nat → Rd α) (hl : ∀ f, Rd.Local (p f))
    (hirr : ∀ f1 f2 bs, bs.length < f1 → bs.length < f2 → p f1 bs = p f2 bs)
    (φ : Bytes → Nat) (hφ : ∀ bs, bs.length < φ bs) : Rd.Local (fun bs => p (φ bs) bs) := by
  intro bs a rest h
  obtain ⟨used, hu, hext, hpre⟩ := hl (φ bs) bs a rest h
  have hlen : used.length ≤ bs.length := by rw [hu]; simp
  refine ⟨used, hu, ?_, ?_⟩
  · intro ext
    show p (φ (used ++ ext)) (used ++ ext) = .ok (a, ext)
    have h0 := hext []
    have hF : (used ++ ([] : Bytes)).length < φ (used ++ ext) := by
      have := hφ (used ++ ext); simp only [List.length_append, List.length_nil] at this ⊢; omega
    have hB : (used ++ ([] : Bytes)).length < φ bs := by
      have := hφ bs; simp only [List.length_append, List.length_nil]; omega
    rw [hirr (φ bs) (φ (used ++ ext)) _ hB hF] at h0
    obtain ⟨used', hu', hext', _⟩ := hl (φ (used ++ ext)) _ a [] h0
    simp only [List.append_nil] at hu'
    subst hu'
    exact hext' ext
  · intro pre hp hlt
    obtain ⟨e, he⟩ := hpre pre hp hlt
    refine ⟨e, ?_⟩
    show p (φ pre) pre = .err e
    rw [hirr (φ pre) (φ bs) pre (hφ pre) (by have := hφ bs; omega)]
    exact he

theorem local_readMap (utf8 : Bytes → Bool) : Rd.Local (fun bs => readMap utf8 bs : Rd KVs) :=
  local_of_fuel (fun f => (fun bs => readMapLoop utf8 f 1 bs .nil : Rd KVs))
    (fun f => (ubj_local utf8 f).2 1 .nil)
    (fun f1 f2 bs h1 h2 => (ubj_fuel utf8 f1).2 f2 1 bs .nil h1 h2)
    (fun bs => 2 * bs.length + 2) (fun bs => by omega)  -- the fuel `readMap` gives itself

#print axioms local_readMap
end Peppi
