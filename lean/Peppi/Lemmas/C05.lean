import Peppi.Lemmas.StartSpec
/-! C05 for the oldest (320 payload bytes, versions below 1.0) and the newest (760 bytes, from 3.14) layout, against
    specifications written out by hand for those two lengths with the absolute offsets of DESIGN.md Appendix A: a cross-check
    of the generic `specStart L`.
    A trap: `C05`, `C05All`, `C05Long` stay three modules with their declarations in this order.  A `match` in a statement
    is compiled to an auxiliary definition named after the first declaration of its module that needs one of that kind
    (`gameStartP_320.match_1` here, `start_of_at.match_1` in `C05All`, `C05_start_long.match_1` in `C05Long`), and that name
    is part of the statement as Lean records it: merged or reordered, `C05_start`, `C05_end` and the rest say the same and
    are other terms. -/
namespace Peppi

/-- the spec, by absolute payload offsets, for a 320-byte block -/
def specStart320 (T : TextOracle) (blk b : Bytes) : Res Start :=
  let at_ (o w : Nat) : Nat := fromBE ((b.drop o).take w)
  let byte (o : Nat) : Nat := (b.getD o 0).toNat
  let isTeams := byte 12 != 0
  (collectPlayers ((List.range NUM_PORTS).map fun n =>
      player T n (((List.range MAX_PLAYERS).map fun i => (b.drop (100 + 36 * i)).take 36).getD n []) isTeams none none none none none)) >>= fun players =>
  .ok { version := ⟨byte 0, byte 1, byte 2⟩, bitfield := (b.drop 4).take 4, isRainingBombs := byte 10 != 0, isTeams,
        itemSpawnFrequency := byte 15, selfDestructScore := byte 16, stage := at_ 18 2, timer := at_ 20 4,
        itemSpawnBitfield := (b.drop 39).take 5, damageRatio := at_ 52 4, players, randomSeed := at_ 316 4, bytes := blk,
        isPal := none, isFrozenPs := none, scene := none, language := none, match_ := none }

theorem specStart320_eq (T : TextOracle) (blk b : Bytes) : specStart320 T blk b = specStart 320 T blk b := by
  simp only [specStart320, specStart, Nat.reduceLeDiff, ↓reduceIte, Res.ok_bind, NUM_PORTS]

/-- **C05**, oldest length class -/
theorem gameStartP_320 (T : TextOracle) (blk b : Bytes) (hb : b.length = 320) :
    gameStartP T blk b = match specStart320 T blk b with | .ok s => .ok (s, []) | .err e => .err e | .panic p => .panic p := by
  rw [gameStartP_spec T blk b (.inl (by rw [hb]; decide)), hb, specStart320_eq, List.drop_eq_nil_of_le (by omega)]
  cases specStart 320 T blk b <;> rfl

#print axioms gameStartP_320

/-- the spec, by absolute payload offsets, for a full-length 760-byte block (versions ≥ 3.14) -/
def specStart760 (T : TextOracle) (blk b : Bytes) : Res Start :=
  let at_ (o w : Nat) : Nat := fromBE ((b.drop o).take w)
  let byte (o : Nat) : Nat := (b.getD o 0).toNat
  let sl (o w : Nat) : Bytes := (b.drop o).take w
  let isTeams := byte 12 != 0
  (if byte 700 ≤ 1 then Res.ok (byte 700) else .err "invalid language") >>= fun language =>
  utf8Field T (sl 701 51) 50 >>= fun id =>
  (collectPlayers ((List.range NUM_PORTS).map fun n =>
      player T n (((List.range MAX_PLAYERS).map fun i => sl (100 + 36 * i) 36).getD n []) isTeams
        (some (((List.range NUM_PORTS).map fun i => sl (320 + 8 * i) 8).getD n []))
        (some (((List.range NUM_PORTS).map fun i => sl (352 + 16 * i) 16).getD n []))
        (some (((List.range NUM_PORTS).map fun i => sl (420 + 31 * i) 31).getD n []))
        (some (((List.range NUM_PORTS).map fun i => sl (544 + 10 * i) 10).getD n []))
        (some (((List.range NUM_PORTS).map fun i => sl (584 + 29 * i) 29).getD n [])))) >>= fun players =>
  .ok { version := ⟨byte 0, byte 1, byte 2⟩, bitfield := sl 4 4, isRainingBombs := byte 10 != 0, isTeams,
        itemSpawnFrequency := byte 15, selfDestructScore := byte 16, stage := at_ 18 2, timer := at_ 20 4,
        itemSpawnBitfield := sl 39 5, damageRatio := at_ 52 4, players, randomSeed := at_ 316 4, bytes := blk,
        isPal := some (byte 416 != 0), isFrozenPs := some (byte 417 != 0), scene := some (byte 418, byte 419),
        language := some language, match_ := some ⟨id, at_ 752 4, at_ 756 4⟩ }

theorem specStart760_eq (T : TextOracle) (blk b : Bytes) : specStart760 T blk b = specStart 760 T blk b := by
  simp only [specStart760, specStart, Nat.reduceLeDiff, ↓reduceIte, Res.bind_assoc, Res.ok_bind, NUM_PORTS]
  split <;> rfl

theorem gameStartP_at760 (T : TextOracle) (blk : Bytes) :
    ∃ (w : Nat) (f : Bytes → Res Start), Rd.AtL 760 (gameStartP T blk) 0 w f ∧ w = 760 ∧ ∀ b, f b = specStart760 T blk b := by
  refine ⟨760, specStart 760 T blk, Rd.atL_of_eq fun b hb => ?_, rfl, fun b => (specStart760_eq T blk b).symm⟩
  have h760 : 760 ≤ b.length := by omega
  rw [gameStartP_spec T blk b (.inr h760), hb]

#print axioms gameStartP_at760
end Peppi
