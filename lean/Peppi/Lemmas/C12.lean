import Peppi.Lemmas.HandleSpec
/-! C12, accounting of one event call, read off `parseEvent_spec`. -/
namespace Peppi
open Extracted

/-- **C12 (accounting)**: one `parse_event` call advances `bytes_read` by exactly the number of bytes it took from the stream -/
theorem parseEvent_count (ps : ParseState) (bs : Bytes) (code : Nat) (ps' : ParseState) (rest : Bytes)
    (h : parseEvent ps bs = .ok ((code, ps'), rest)) :
    ps'.bytesRead + rest.length = ps.bytesRead + bs.length := by
  obtain ⟨_, _, hcount⟩ := Rd.wp_elim (parseEvent_spec ps bs) h
  exact hcount

#print axioms parseEvent_count
end Peppi
