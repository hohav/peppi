import Peppi.Lemmas.WpAttr
import Peppi.Res
/-! Weakest preconditions for `Res` and the slice reader `Rd`.  `wp pn r Q`: if `r` succeeds its result satisfies `Q`; an error
    is always acceptable, a panic iff `pn`.  `wp` commutes with every combinator by an equation (attribute `wp`): `simp only [f, wp]`
    walks a straight-line `do` block; `wp_seq` / `wp_if` walk by hand where the continuation must not be copied into branches. -/
namespace Peppi

def Res.NoPanic {α} (r : Res α) : Prop := ∀ s, r ≠ .panic s
def Rd.NoPanic {α} (p : Rd α) : Prop := ∀ bs s, p bs ≠ .panic s

/-- `r` does not panic, and a successful result satisfies `P` -/
def Res.Safe {α} (P : α → Prop) (r : Res α) : Prop := (∀ s, r ≠ .panic s) ∧ ∀ a, r = .ok a → P a
def Rd.Safe {α} (P : α → Prop) (p : Rd α) : Prop := ∀ bs, Res.Safe (fun ar => P ar.1) (p bs)

/-- a successful result satisfies `P` -/
def Res.Post {α} (P : α → Prop) (r : Res α) : Prop := ∀ a, r = .ok a → P a
def Rd.Post {α} (P : α → Prop) (p : Rd α) : Prop := ∀ bs a rest, p bs = .ok (a, rest) → P a

def Res.wp {α} (pn : Prop) (r : Res α) (Q : α → Prop) : Prop :=
  match r with
  | .ok a => Q a
  | .err _ => True
  | .panic _ => pn

def Rd.wp {α} (pn : Prop) (p : Rd α) (Q : α → Bytes → Prop) (bs : Bytes) : Prop :=
  Res.wp pn (p bs) fun ar => Q ar.1 ar.2

/- so that a goal whose postcondition has become `True` collapses at once, and the two copies of the continuation that
   `Rd.wp_ifMore` makes per optional field fall together again -/
attribute [wp] implies_true and_self forall_const true_and and_true

section
variable {α β : Type} {pn : Prop}

@[wp] theorem Res.wp_ok (a : α) (Q : α → Prop) : Res.wp pn (.ok a) Q ↔ Q a := Iff.rfl
@[wp] theorem Res.wp_pure (a : α) (Q : α → Prop) : Res.wp pn (pure a) Q ↔ Q a := Iff.rfl
@[wp] theorem Res.wp_err (e : String) (Q : α → Prop) : Res.wp pn (.err e) Q ↔ True := Iff.rfl
@[wp] theorem Res.wp_panic (s : String) (Q : α → Prop) : Res.wp pn (.panic s) Q ↔ pn := Iff.rfl

/-- `↓`: applied before `simp` descends into `f`, so that the program behind a `>>=` is not traversed once per step -/
@[wp ↓] theorem Res.wp_bind (r : Res α) (f : α → Res β) (Q : β → Prop) :
    Res.wp pn (r >>= f) Q ↔ Res.wp pn r fun a => Res.wp pn (f a) Q := by
  cases r <;> rfl

@[wp] theorem Res.wp_ite (c : Prop) [Decidable c] (p q : Res α) (Q : α → Prop) :
    Res.wp pn (if c then p else q) Q ↔ (c → Res.wp pn p Q) ∧ (¬ c → Res.wp pn q Q) := by
  split <;> simp [*]

theorem Res.wp_mono {r : Res α} {Q Q' : α → Prop} (h : Res.wp pn r Q) (hq : ∀ a, r = .ok a → Q a → Q' a) :
    Res.wp pn r Q' := by
  cases r with
  | ok a => exact hq a rfl h
  | err e => trivial
  | panic s => exact h

theorem Res.wp_imp {pn' : Prop} {r : Res α} {Q : α → Prop} (h : Res.wp pn r Q) (hpn : pn → pn') : Res.wp pn' r Q := by
  cases r with
  | ok a => exact h
  | err e => trivial
  | panic s => exact hpn h

theorem Res.wp_elim {r : Res α} {Q : α → Prop} (h : Res.wp pn r Q) {a : α} (hr : r = .ok a) : Q a := by
  subst hr
  exact h

theorem Res.wp_seq {r : Res α} {f : α → Res β} {R : α → Prop} {Q : β → Prop}
    (hr : Res.wp pn r R) (hf : ∀ a, r = .ok a → R a → Res.wp pn (f a) Q) : Res.wp pn (r >>= f) Q :=
  (Res.wp_bind r f Q).2 (Res.wp_mono hr hf)

theorem Res.wp_then {r : Res α} {f : α → Res β} {Q : β → Prop} (h : Res.NoPanic r) (hf : ∀ a, Res.wp pn (f a) Q) :
    Res.wp pn (r >>= f) Q := by
  cases r with
  | ok a => exact hf a
  | err e => trivial
  | panic s => exact absurd rfl (h s)

theorem Res.wp_if {Q : α → Prop} (c : Prop) [Decidable c] {p q : Res α}
    (hp : c → Res.wp pn p Q) (hq : ¬ c → Res.wp pn q Q) : Res.wp pn (if c then p else q) Q :=
  (Res.wp_ite c p q Q).2 ⟨hp, hq⟩

theorem Res.wp_of_ok {r : Res α} {Q : α → Prop} (h : ∀ a, r = .ok a → Q a) : Res.wp True r Q := by
  cases r with
  | ok a => exact h a rfl
  | err e => trivial
  | panic s => trivial

theorem Res.wp_np {P : Prop} {r : Res α} (h : P → Res.NoPanic r) : Res.wp (¬ P) r fun _ => True := by
  cases r with
  | ok a => trivial
  | err e => trivial
  | panic s => exact fun hp => h hp s rfl

theorem Res.safe_iff {P : α → Prop} {r : Res α} : Res.Safe P r ↔ Res.wp False r P := by
  cases r <;> simp [Res.Safe, Res.wp]
theorem Res.noPanic_iff {r : Res α} : Res.NoPanic r ↔ Res.wp False r fun _ => True := by
  cases r <;> simp [Res.NoPanic, Res.wp]

theorem Res.post_ok {P : α → Prop} {a : α} (h : P a) : Res.Post P (.ok a) := by
  intro b hb; cases hb; exact h

/-- for `simp` inside a walk: a step already known not to panic -/
theorem Res.wp_noPanic {r : Res α} (h : Res.NoPanic r) : Res.wp False r (fun _ => True) ↔ True :=
  iff_true_intro (Res.noPanic_iff.1 h)

@[wp] theorem Rd.wp_pure (a : α) (Q : α → Bytes → Prop) (bs : Bytes) : Rd.wp pn (pure a) Q bs ↔ Q a bs := Iff.rfl
@[wp] theorem Rd.wp_fail (e : String) (Q : α → Bytes → Prop) (bs : Bytes) : Rd.wp pn (Rd.fail e) Q bs ↔ True := Iff.rfl

@[wp ↓] theorem Rd.wp_bind (p : Rd α) (f : α → Rd β) (Q : β → Bytes → Prop) (bs : Bytes) :
    Rd.wp pn (p >>= f) Q bs ↔ Rd.wp pn p (fun a rest => Rd.wp pn (f a) Q rest) bs := by
  simp only [Rd.wp, bind]
  cases p bs <;> rfl

@[wp] theorem Rd.wp_ite (c : Prop) [Decidable c] (p q : Rd α) (Q : α → Bytes → Prop) (bs : Bytes) :
    Rd.wp pn (if c then p else q) Q bs ↔ (c → Rd.wp pn p Q bs) ∧ (¬ c → Rd.wp pn q Q bs) := by
  split <;> simp [*]

@[wp] theorem Rd.wp_take (n : Nat) (Q : Bytes → Bytes → Prop) (bs : Bytes) :
    Rd.wp pn (Rd.take n) Q bs ↔ (n ≤ bs.length → Q (bs.take n) (bs.drop n)) := by
  simp only [Rd.wp, Rd.take]
  split
  · exact ⟨fun _ h => absurd h (Nat.not_le.2 ‹_›), fun _ => trivial⟩
  · exact ⟨fun h _ => h, fun h => h (Nat.le_of_not_lt ‹_›)⟩

@[wp] theorem Rd.wp_u8 (Q : Nat → Bytes → Prop) (bs : Bytes) :
    Rd.wp pn Rd.u8 Q bs ↔ ∀ b t, bs = b :: t → Q b.toNat t := by
  cases bs with
  | nil => simp [Rd.wp, Rd.u8, Res.wp]
  | cons b t => simp [Rd.wp, Rd.u8, Res.wp]

@[wp] theorem Rd.wp_be (n : Nat) (Q : Nat → Bytes → Prop) (bs : Bytes) :
    Rd.wp pn (Rd.be n) Q bs ↔ (n ≤ bs.length → Q (fromBE (bs.take n)) (bs.drop n)) := by
  simp only [Rd.be, Rd.wp_bind, Rd.wp_take, Rd.wp_pure]

@[wp] theorem Rd.wp_skip (n : Nat) (Q : Unit → Bytes → Prop) (bs : Bytes) :
    Rd.wp pn (Rd.skip n) Q bs ↔ (n ≤ bs.length → Q () (bs.drop n)) := by
  simp only [Rd.skip, Rd.wp_bind, Rd.wp_take, Rd.wp_pure]

@[wp] theorem Rd.wp_isEmpty (Q : Bool → Bytes → Prop) (bs : Bytes) : Rd.wp pn Rd.isEmpty Q bs ↔ Q bs.isEmpty bs := Iff.rfl

@[wp] theorem Rd.wp_lift (r : Res α) (Q : α → Bytes → Prop) (bs : Bytes) :
    Rd.wp pn (Rd.lift r) Q bs ↔ Res.wp pn r fun a => Q a bs := by
  cases r <;> rfl

/-- `Q` occurs twice on the right: `k` optional fields copy a postcondition that does not collapse `2 ^ k` times -/
@[wp] theorem Rd.wp_ifMore (p : Rd α) (Q : Option α → Bytes → Prop) (bs : Bytes) :
    Rd.wp pn (ifMore p) Q bs ↔ (bs = [] → Q none bs) ∧ (bs ≠ [] → Rd.wp pn p (fun a rest => Q (some a) rest) bs) := by
  cases bs <;> simp [ifMore, Rd.wp_bind, Rd.wp_isEmpty, Rd.wp_ite, Rd.wp_pure]

theorem Rd.wp_mono {p : Rd α} {Q Q' : α → Bytes → Prop} {bs : Bytes} (h : Rd.wp pn p Q bs)
    (hq : ∀ a rest, p bs = .ok (a, rest) → Q a rest → Q' a rest) : Rd.wp pn p Q' bs :=
  Res.wp_mono h fun ar har => hq ar.1 ar.2 har

theorem Rd.wp_seq {p : Rd α} {f : α → Rd β} {R : α → Bytes → Prop} {Q : β → Bytes → Prop} {bs : Bytes}
    (hp : Rd.wp pn p R bs) (hf : ∀ a rest, R a rest → Rd.wp pn (f a) Q rest) : Rd.wp pn (p >>= f) Q bs :=
  (Rd.wp_bind p f Q bs).2 (Rd.wp_mono hp fun a rest _ h => hf a rest h)

theorem Rd.wp_of_ok {p : Rd α} {Q : α → Bytes → Prop} {bs : Bytes} (h : ∀ a rest, p bs = .ok (a, rest) → Q a rest) :
    Rd.wp True p Q bs :=
  Res.wp_of_ok fun ar har => h ar.1 ar.2 har

theorem Rd.wp_elim {p : Rd α} {Q : α → Bytes → Prop} {bs : Bytes} (h : Rd.wp pn p Q bs) {a : α} {rest : Bytes}
    (hr : p bs = .ok (a, rest)) : Q a rest :=
  Res.wp_elim h hr

theorem Rd.post_of_wp {P : α → Prop} {p : Rd α} (h : ∀ bs, Rd.wp pn p (fun a _ => P a) bs) : Rd.Post P p :=
  fun bs _ _ hr => Rd.wp_elim (h bs) hr

theorem Rd.safe_iff {P : α → Prop} {p : Rd α} : Rd.Safe P p ↔ ∀ bs, Rd.wp False p (fun a _ => P a) bs :=
  forall_congr' fun _ => Res.safe_iff
theorem Rd.noPanic_iff {p : Rd α} : Rd.NoPanic p ↔ ∀ bs, Rd.wp False p (fun _ _ => True) bs :=
  forall_congr' fun _ => Res.noPanic_iff

theorem Rd.wp_noPanic {p : Rd α} (h : Rd.NoPanic p) (bs : Bytes) : Rd.wp False p (fun _ _ => True) bs ↔ True :=
  iff_true_intro (Rd.noPanic_iff.1 h bs)

end

section
variable {α β γ : Type}

theorem Res.ok_bind (a : α) (f : α → Res β) : Res.ok a >>= f = f a := rfl
theorem Res.bind_assoc (r : Res α) (f : α → Res β) (g : β → Res γ) : r >>= f >>= g = r >>= fun a => f a >>= g := by
  cases r <;> rfl

theorem Res.bind_peel {r : Res α} {f : α → Res γ} {g : α → Res β} {h : β → Res γ} (H : ∀ a, f a = g a >>= h) :
    r >>= f = r >>= g >>= h := by
  cases r with
  | ok a => exact H a
  | err e => rfl
  | panic s => rfl

theorem Res.bind_ok_imp {r : Res β} {f g : β → Res α} {a : α} (hfg : ∀ c, f c = .ok a → g c = .ok a)
    (h : (r >>= f) = .ok a) : (r >>= g) = .ok a := by
  cases r with
  | ok c => exact hfg c h
  | err e => cases h
  | panic p => cases h

theorem Rd.bind_def (p : Rd α) (k : α → Rd β) (bs : Bytes) :
    (p >>= k) bs = match p bs with | .ok (a, rest) => k a rest | .err e => .err e | .panic s => .panic s := rfl

theorem Rd.bind_assoc (p : Rd α) (f : α → Rd β) (g : β → Rd γ) : p >>= f >>= g = p >>= fun a => f a >>= g := by
  funext bs
  simp only [Rd.bind_def]
  cases p bs <;> rfl

/-- sequencing after a step whose outcome on this input is known -/
theorem Rd.bind_of_eq {p : Rd α} {k : α → Rd β} {bs bs' : Bytes} {r : Res α} (h : p bs = r >>= fun a => .ok (a, bs')) :
    (p >>= k) bs = r >>= fun a => k a bs' := by
  rw [Rd.bind_def, h]; cases r <;> rfl

theorem Rd.bind_ok {p : Rd α} {k : α → Rd β} {bs bs' : Bytes} {a : α} (h : p bs = .ok (a, bs')) : (p >>= k) bs = k a bs' :=
  Rd.bind_of_eq (r := .ok a) h

theorem Rd.lift_bind (r : Res α) (k : α → Rd β) (bs : Bytes) : (Rd.lift r >>= k) bs = r >>= fun a => k a bs := by
  cases r <;> rfl

theorem Rd.bind_congr {p : Rd α} {f g : α → Rd β} {bs : Bytes}
    (h : ∀ a rest, p bs = .ok (a, rest) → f a rest = g a rest) : (p >>= f) bs = (p >>= g) bs := by
  simp only [bind]
  cases hp : p bs with
  | ok ar => exact h ar.1 ar.2 hp
  | err e => rfl
  | panic s => rfl

theorem Rd.bind_congr_left {p q : Rd α} (f : α → Rd β) {bs : Bytes} (h : p bs = q bs) : (p >>= f) bs = (q >>= f) bs := by
  simp only [Bind.bind, h]

theorem Rd.take_append {n : Nat} (xs rest : Bytes) (h : xs.length = n) : Rd.take n (xs ++ rest) = .ok (xs, rest) := by
  subst h
  rw [Rd.take, if_neg (by rw [List.length_append]; exact Nat.not_lt.2 (Nat.le_add_right _ _)), List.take_left' rfl,
    List.drop_left' rfl]

theorem Rd.u8_ofNat {c : Nat} (hc : c < 256) (t : Bytes) : Rd.u8 (UInt8.ofNat c :: t) = .ok (c, t) := by
  rw [Rd.u8, UInt8.toNat_ofNat_of_lt' hc]

end
end Peppi
