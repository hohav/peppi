import Peppi.Lemmas.Positional
/-! C05: the offset specifications `specStart L`, `specEnd L` (a group of optional fields is present iff it lies inside a block
    of length `L`), and that the sequential parsers compute them on every block that ends on a group boundary.
    From the Slippi spec as DESIGN.md Appendix A tabulates it, and not from the parser, are the absolute offsets and widths and
    the block lengths at which a group of fields ends (`startLengths`; 1, 2, 6 for Game End).  What the bytes of a field mean
    is shared with the parser: a player record and the per-port groups go through the model's `player`, the match id through
    `utf8Field`, the placements of Game End through `gameEndP.go`. -/
namespace Peppi

/-- Game Start by absolute payload offsets (DESIGN.md Appendix A): the field at offset `o` of width `w` is `b[o, o + w)`, and
    an optional group that ends at offset `e` is present iff `e ≤ L` -/
def specStart (L : Nat) (T : TextOracle) (blk b : Bytes) : Res Start :=
  let at_ (o w : Nat) : Nat := fromBE ((b.drop o).take w)
  let byte (o : Nat) : Nat := (b.getD o 0).toNat
  let sl (o w : Nat) : Bytes := (b.drop o).take w
  let per (o w : Nat) (n : Nat) : Bytes := ((List.range NUM_PORTS).map fun i => sl (o + w * i) w).getD n []
  let opt {α} (endOff : Nat) (x : α) : Option α := if endOff ≤ L then some x else none
  let isTeams := byte 12 != 0
  (if 701 ≤ L then (if byte 700 ≤ 1 then Res.ok (some (byte 700)) else .err "invalid language") else .ok none) >>= fun language =>
  (if 760 ≤ L then utf8Field T (sl 701 51) 50 >>= fun id => .ok (some (Match.mk id (at_ 752 4) (at_ 756 4))) else .ok none) >>= fun match_ =>
  (collectPlayers ((List.range NUM_PORTS).map fun n =>
      player T n (((List.range MAX_PLAYERS).map fun i => sl (100 + 36 * i) 36).getD n []) isTeams
        (opt 352 (per 320 8 n)) (opt 416 (per 352 16 n)) (opt 584 (per 420 31 n)) (opt 584 (per 544 10 n)) (opt 700 (per 584 29 n)))) >>= fun players =>
  .ok { version := ⟨byte 0, byte 1, byte 2⟩, bitfield := sl 4 4, isRainingBombs := byte 10 != 0, isTeams,
        itemSpawnFrequency := byte 15, selfDestructScore := byte 16, stage := at_ 18 2, timer := at_ 20 4,
        itemSpawnBitfield := sl 39 5, damageRatio := at_ 52 4, players, randomSeed := at_ 316 4, bytes := blk,
        isPal := opt 417 (byte 416 != 0), isFrozenPs := opt 418 (byte 417 != 0), scene := opt 420 (byte 418, byte 419),
        language := language, match_ := match_ }

/-- the legal payload lengths of Game Start, one per version that added fields: 320 (below 1.0), 352 (1.0), 416 (1.3),
    417 (1.5), 418 (2.0), 420 (3.7), 584 (3.9), 700 (3.11), 701 (3.12), 760 (3.14) -/
def startLengths : List Nat := [320, 352, 416, 417, 418, 420, 584, 700, 701, 760]

/-- the optional groups of Game Start fields lie between consecutive legal lengths, so a block of legal length, or one
    longer than the newest layout, holds each group wholly or ends before it -/
theorem startLen_cut {L o e : Nat} (hL : L ∈ startLengths ∨ 760 ≤ L)
    (h : (o, e) ∈ startLengths.zip startLengths.tail := by decide) : o < L → e ≤ L := by
  rcases hL with hL | hL
  · exact (by decide : ∀ L ∈ startLengths, ∀ oe ∈ startLengths.zip startLengths.tail, oe.1 < L → oe.2 ≤ L) L hL (o, e) h
  · exact fun _ => Nat.le_trans ((by decide : ∀ oe ∈ startLengths.zip startLengths.tail, oe.2 ≤ 760) (o, e) h) hL

theorem startLen_ge {L : Nat} (hL : L ∈ startLengths ∨ 760 ≤ L) : 320 ≤ L := by
  rcases hL with hL | hL
  · exact (by decide : ∀ L ∈ startLengths, 320 ≤ L) L hL
  · exact Nat.le_trans (by decide) hL

/-- every block length at once; the parser stops after byte 760 -/
theorem gameStartP_spec (T : TextOracle) (blk b : Bytes) (hL : b.length ∈ startLengths ∨ 760 ≤ b.length) :
    gameStartP T blk b = specStart b.length T blk b >>= fun s => .ok (s, b.drop 760) := by
  have h320 := startLen_ge hL
  show gameStartP T blk (b.drop 0) = _  -- the stepping lemmas speak of `b.drop off`
  unfold gameStartP
  -- the 320 bytes every version has
  simp only [↓Rd.u8_bind h320, ↓Rd.take_bind h320, ↓Rd.be_bind h320, ↓Rd.skip_bind h320, ↓playerBytes_bind h320,
    Nat.reduceAdd, Nat.reduceLeDiff, Nat.reduceMul, MAX_PLAYERS]
  refine (ifMore_bind_ok 352 (by decide) (startLen_cut hL) fun h => playerBytes_drop _ _ h).trans ?_
  refine (ifMore_bind_ok 416 (by decide) (startLen_cut hL) fun h => playerBytes_drop _ _ h).trans ?_
  refine (ifMore_bind_ok 417 (by decide) (startLen_cut hL) fun h => Rd.u8_bind h _ (by decide)).trans ?_
  refine (ifMore_bind_ok 418 (by decide) (startLen_cut hL) fun h => Rd.u8_bind h _ (by decide)).trans ?_
  refine (ifMore_bind_ok 420 (by decide) (startLen_cut hL) fun h =>
    (Rd.u8_bind h _ (by decide)).trans (Rd.u8_bind h _ (by decide))).trans ?_
  refine (ifMore_bind_ok 584 (by decide) (startLen_cut hL) fun h =>
    (playerBytes_bind h _ _ _ (by decide)).trans (playerBytes_bind h _ _ _ (by decide))).trans ?_
  refine (ifMore_bind_ok 700 (by decide) (startLen_cut hL) fun h => playerBytes_drop _ _ h).trans ?_
  simp only [Option.map_if]
  -- the three steps that can fail come in the same order in `specStart`
  refine (ifMore_bind 701 _ (by decide) (startLen_cut hL) fun h => ?_).trans (Res.bind_peel fun language => ?_)
  · rw [Rd.bind_assoc, Rd.u8_bind h _ (by decide)]; split <;> rfl
  refine (ifMore_bind 760 _ (by decide) (startLen_cut hL) fun h => ?_).trans (Res.bind_peel fun match_ => ?_)
  · simp only [Rd.bind_assoc, Rd.take_bind h, Rd.lift_bind, Nat.reduceAdd, Nat.reduceLeDiff]
    cases utf8Field T ((b.drop 701).take 51) 50 <;> try rfl
    simp only [Rd.be_bind h, Nat.reduceAdd, Nat.reduceLeDiff]
    rfl
  exact (Rd.lift_bind _ _ _).trans (Res.bind_peel fun players => rfl)

theorem specStart_ge760 (T : TextOracle) (blk b : Bytes) {L : Nat} (hL : 760 ≤ L) :
    specStart L T blk b = specStart 760 T blk b := by
  have h : ∀ k, k ≤ 760 → (k ≤ L) = True := fun k hk => eq_true (Nat.le_trans hk hL)
  simp only [specStart, h, Nat.reduceLeDiff, ↓reduceIte]

/-- Game End by absolute payload offsets: method @0, LRAS initiator @1 (≥ 2.0), placements @2..5 (≥ 3.13) -/
def specEnd (L : Nat) (blk b : Bytes) : Res End :=
  let byte (o : Nat) : Nat := (b.getD o 0).toNat
  if ¬ (byte 0 ≤ 3 ∨ byte 0 = 7) then .err "invalid end method" else
  (if 2 ≤ L then ((if byte 1 = 255 then Res.ok none else if byte 1 ≤ 3 then .ok (some (byte 1)) else .err "invalid port") >>= fun x => .ok (some x))
    else .ok none) >>= fun lras =>
  (if 6 ≤ L then (gameEndP.go 0 ((b.drop 2).take 4) >>= fun p => .ok (some p)) else .ok none) >>= fun players =>
  .ok { method := byte 0, bytes := blk, lrasInitiator := lras, players }

theorem gameEndP_spec (blk b : Bytes) (hL : b.length = 1 ∨ b.length = 2 ∨ 6 ≤ b.length) :
    gameEndP blk b = specEnd b.length blk b >>= fun e => .ok (e, b.drop 6) := by
  have h1 : 1 ≤ b.length := by omega
  show gameEndP blk (b.drop 0) = _
  unfold gameEndP
  rw [Rd.u8_bind h1 _ (Nat.le_refl _)]
  by_cases hm : (b.getD 0 0).toNat ≤ 3 ∨ (b.getD 0 0).toNat = 7
  · simp only [specEnd, hm, not_true_eq_false, ↓reduceIte]
    refine (ifMore_bind 2 _ (by decide) (by omega) fun h => ?_).trans (Res.bind_peel fun lras => ?_)
    · rw [Rd.bind_assoc, Rd.u8_bind h _ (by decide)]
      split
      · rfl
      · split <;> rfl
    refine (ifMore_bind 6 _ (by decide) (by omega) fun h => ?_).trans (Res.bind_peel fun players => rfl)
    rw [Rd.bind_assoc, Rd.take_bind h _ _ (by decide), Rd.lift_bind, Res.bind_assoc]
    rfl
  · simp only [specEnd, hm, not_false_eq_true, ↓reduceIte]
    rfl

theorem specEnd_ge6 (blk b : Bytes) {L : Nat} (hL : 6 ≤ L) : specEnd L blk b = specEnd 6 blk b := by
  have h : ∀ k, k ≤ 6 → (k ≤ L) = True := fun k hk => eq_true (Nat.le_trans hk hL)
  simp only [specEnd, h, Nat.reduceLeDiff, ↓reduceIte]
end Peppi
