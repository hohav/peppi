import Peppi.Ubjson
/-! The JSON text of a metadata tree as `serde_json::to_vec` writes it (compact, keys in insertion order — the `preserve_order`
    feature —, strings escaped per the `ESCAPE` table of serde_json: `"` `\` and the control characters, everything else raw)
    and the part of a JSON reader that this text exercises.  The writer model is compared with `serde_json` on every run
    (driver op `jsonw`). -/
namespace Peppi

def hexd (n : Nat) : UInt8 := if n < 10 then UInt8.ofNat (48 + n) else UInt8.ofNat (87 + n)
def hexv (b : UInt8) : Option Nat :=
  if 48 ≤ b.toNat ∧ b.toNat ≤ 57 then some (b.toNat - 48)
  else if 97 ≤ b.toNat ∧ b.toNat ≤ 102 then some (b.toNat - 87)
  else if 65 ≤ b.toNat ∧ b.toNat ≤ 70 then some (b.toNat - 55) else none

theorem hexv_hexd : ∀ n, n < 16 → hexv (hexd n) = some n := by decide

/-- one byte of a string, escaped -/
def escByte (b : UInt8) : Bytes :=
  if b = 0x22 then [0x5c, 0x22]
  else if b = 0x5c then [0x5c, 0x5c]
  else if b = 0x08 then [0x5c, 0x62]
  else if b = 0x0c then [0x5c, 0x66]
  else if b = 0x0a then [0x5c, 0x6e]
  else if b = 0x0d then [0x5c, 0x72]
  else if b = 0x09 then [0x5c, 0x74]
  else if b.toNat < 0x20 then [0x5c, 0x75, 0x30, 0x30, hexd (b.toNat / 16), hexd (b.toNat % 16)]
  else [b]

def escStr (s : Bytes) : Bytes := s.flatMap escByte

/-- the first (possibly escaped) byte of a string body, and what follows it; `none` at the closing quote or on malformed text.
    Only `\u00XY` below 0x80 is taken: the writer emits `\u` for control bytes only, and from 0x80 on the code point would
    have to come back as UTF-8. -/
def unescHead : Bytes → Option (UInt8 × Bytes)
  | [] => none
  | 0x22 :: _ => none
  | 0x5c :: 0x22 :: r => some (0x22, r)
  | 0x5c :: 0x5c :: r => some (0x5c, r)
  | 0x5c :: 0x2f :: r => some (0x2f, r)
  | 0x5c :: 0x62 :: r => some (0x08, r)
  | 0x5c :: 0x66 :: r => some (0x0c, r)
  | 0x5c :: 0x6e :: r => some (0x0a, r)
  | 0x5c :: 0x72 :: r => some (0x0d, r)
  | 0x5c :: 0x74 :: r => some (0x09, r)
  | 0x5c :: 0x75 :: 0x30 :: 0x30 :: h :: l :: r =>
    (match hexv h, hexv l with
     | some a, some b => if a * 16 + b < 0x80 then some (UInt8.ofNat (a * 16 + b), r) else none
     | _, _ => none)
  | 0x5c :: _ => none
  | b :: r => if b.toNat < 0x20 then none else some (b, r)

/-- a string body up to and excluding the closing quote; returns the decoded bytes and what follows the quote -/
def unescStr : Nat → Bytes → Option (Bytes × Bytes)
  | 0, _ => none
  | fuel+1, bs =>
    match bs with
    | 0x22 :: r => some ([], r)
    | _ =>
      match unescHead bs with
      | some (b, r) => (match unescStr fuel r with | some (s, r') => some (b :: s, r') | none => none)
      | none => none

theorem unescHead_plain (b : UInt8) (r : Bytes) (h1 : b ≠ 0x22) (h2 : b ≠ 0x5c) :
    unescHead (b :: r) = if b.toNat < 0x20 then none else some (b, r) := by
  -- the equation of the last arm of the `match` comes with one side condition per earlier pattern: `b :: r` is none of them
  rw [unescHead]
  all_goals intros; contradiction

theorem unescHead_esc (b : UInt8) (r : Bytes) : unescHead (escByte b ++ r) = some (b, r) := by
  by_cases hs : b = 0x22 ∨ b = 0x5c ∨ b = 0x08 ∨ b = 0x0c ∨ b = 0x0a ∨ b = 0x0d ∨ b = 0x09
  · rcases hs with rfl | rfl | rfl | rfl | rfl | rfl | rfl <;> rfl
  simp only [not_or] at hs
  simp only [escByte, hs, ↓reduceIte]
  by_cases hc : b.toNat < 0x20
  · -- `\u00XY`: the two hex digits read back as `b`
    have hq : b.toNat / 16 < 16 := by omega
    have hr : b.toNat % 16 < 16 := Nat.mod_lt _ (by decide)
    have hqr : b.toNat / 16 * 16 + b.toNat % 16 = b.toNat := Nat.div_add_mod' b.toNat 16
    have hb : b.toNat < 0x80 := by omega
    rw [if_pos hc]
    show unescHead (0x5c :: 0x75 :: 0x30 :: 0x30 :: hexd (b.toNat / 16) :: hexd (b.toNat % 16) :: r) = _
    rw [unescHead, hexv_hexd _ hq, hexv_hexd _ hr]
    simp only [hqr, hb, ↓reduceIte, UInt8.ofNat_toNat]
  · rw [if_neg hc, List.singleton_append, unescHead_plain b r hs.1 hs.2.1, if_neg hc]

theorem escByte_ne_nil (b : UInt8) : escByte b ≠ [] := fun h => by
  have := unescHead_esc b []
  rw [h] at this; cases this

theorem unescStr_of_head {fuel : Nat} {bs r : Bytes} {b : UInt8} (h : unescHead bs = some (b, r)) :
    unescStr (fuel + 1) bs = match unescStr fuel r with | some (s, r') => some (b :: s, r') | none => none := by
  rw [unescStr, h]
  -- side condition: `bs` is not at the closing quote, where `unescHead` gives `none`
  intro r' hb; subst hb; cases h

/-- **string round trip**: the escaped body followed by the closing quote reads back as the string -/
theorem unescStr_esc (s rest : Bytes) : ∀ fuel, s.length < fuel → unescStr fuel (escStr s ++ 0x22 :: rest) = some (s, rest) := by
  intro fuel
  induction fuel generalizing s with
  | zero => exact fun hf => absurd hf (Nat.not_lt_zero _)
  | succ fuel ih =>
    intro hf
    cases s with
    | nil => rfl
    | cons b t =>
      rw [show escStr (b :: t) ++ 0x22 :: rest = escByte b ++ (escStr t ++ 0x22 :: rest) from List.append_assoc ..,
        unescStr_of_head (unescHead_esc b _), ih t (Nat.lt_of_succ_lt_succ hf)]

theorem escStr_length_ge (s : Bytes) : s.length ≤ (escStr s).length := by
  induction s with
  | nil => exact Nat.le_refl _
  | cons b t ih =>
    have : 1 ≤ (escByte b).length := List.length_pos_iff.mpr (escByte_ne_nil b)
    simp only [escStr, List.flatMap_cons, List.length_append, List.length_cons] at ih ⊢
    omega

/-! ### integers -/

/-- decimal digits of a natural number, most significant first -/
def natDec (n : Nat) : Bytes := if n < 10 then [UInt8.ofNat (48 + n)] else natDec (n / 10) ++ [UInt8.ofNat (48 + n % 10)]
decreasing_by omega

def isDecDigit (b : UInt8) : Bool := 48 ≤ b.toNat && b.toNat ≤ 57

/-- the value of the maximal run of digits at the head, and what follows -/
def parseNatAcc : Nat → Bytes → Nat × Bytes
  | acc, [] => (acc, [])
  | acc, b :: r => if isDecDigit b then parseNatAcc (acc * 10 + (b.toNat - 48)) r else (acc, b :: r)

def NoDigitHead (rest : Bytes) : Prop := ∀ b, rest.head? = some b → isDecDigit b = false

theorem digit_toNat {d : Nat} (h : d < 10) : (UInt8.ofNat (48 + d)).toNat = 48 + d :=
  UInt8.toNat_ofNat_of_lt' (show 48 + d < 256 by omega)

theorem isDecDigit_digit {d : Nat} (h : d < 10) : isDecDigit (UInt8.ofNat (48 + d)) = true := by
  simp only [isDecDigit, digit_toNat h, Bool.and_eq_true, decide_eq_true_eq]; omega

theorem parseNatAcc_digit (acc : Nat) {d : Nat} (h : d < 10) (tail : Bytes) :
    parseNatAcc acc (UInt8.ofNat (48 + d) :: tail) = parseNatAcc (acc * 10 + d) tail := by
  rw [parseNatAcc, if_pos (isDecDigit_digit h), digit_toNat h, Nat.add_sub_cancel_left]

theorem parseNatAcc_natDec_append (n : Nat) : ∀ (acc : Nat) (tail : Bytes),
    parseNatAcc acc (natDec n ++ tail) = parseNatAcc (acc * 10 ^ (natDec n).length + n) tail := by
  induction n using natDec.induct with
  | case1 n hlt =>
    intro acc tail
    rw [natDec, if_pos hlt, List.singleton_append, parseNatAcc_digit acc hlt, List.length_singleton, Nat.pow_one]
  | case2 n hlt ih =>
    intro acc tail
    have hv : (acc * 10 ^ (natDec (n / 10)).length + n / 10) * 10 + n % 10 =
        acc * 10 ^ ((natDec (n / 10)).length + 1) + n := by
      rw [Nat.pow_succ, Nat.add_mul, Nat.mul_assoc]
      omega
    rw [natDec, if_neg hlt, List.append_assoc, ih, List.singleton_append, parseNatAcc_digit _ (Nat.mod_lt n (by decide))]
    rw [List.length_append, List.length_singleton, hv]

theorem parseNatAcc_stop (acc : Nat) (rest : Bytes) (h : NoDigitHead rest) : parseNatAcc acc rest = (acc, rest) := by
  cases rest with
  | nil => rfl
  | cons x t => rw [parseNatAcc, if_neg (by rw [h x rfl]; exact Bool.false_ne_true)]

/-- (the hypothesis is `NoDigitHead rest`, written out) -/
theorem parseNatAcc_natDec (n : Nat) : ∀ (acc : Nat) (rest : Bytes), (∀ b, rest.head? = some b → isDecDigit b = false) →
    parseNatAcc acc (natDec n ++ rest) = (acc * 10 ^ (natDec n).length + n, rest) := fun acc rest h => by
  rw [parseNatAcc_natDec_append, parseNatAcc_stop _ _ h]

def intDec (i : Int) : Bytes := if i < 0 then 0x2d :: natDec i.natAbs else natDec i.natAbs

/-! ### trees -/

mutual
  /-- `serde_json::to_vec` of a value -/
  def jsonVal : Tree → Bytes
    | .str s => 0x22 :: (escStr s ++ [0x22])
    | .int n => intDec n
    | .map m => 0x7b :: (jsonKVs true m ++ [0x7d])
  /-- the entries of an object; every entry but the first is preceded by a comma -/
  def jsonKVs : Bool → KVs → Bytes
    | _, .nil => []
    | first, .cons k v rest => (if first then [] else [0x2c]) ++ (0x22 :: (escStr k ++ [0x22, 0x3a])) ++ jsonVal v ++ jsonKVs false rest
end

mutual
  /-- a JSON value (the forms the writer emits: string, integer, object) -/
  def pVal : Nat → Bytes → Option (Tree × Bytes)
    | 0, _ => none
    | fuel+1, bs =>
      match bs with
      | 0x22 :: r => (match unescStr (r.length + 1) r with | some (s, r') => some (.str s, r') | none => none)
      | 0x7b :: r => (match pEntries fuel true r with | some (m, r') => some (.map m, r') | none => none)
      | 0x2d :: r => (match r with
          | b :: _ => if isDecDigit b then let p := parseNatAcc 0 r; some (.int (-(p.1 : Int)), p.2) else none
          | [] => none)
      | b :: _ => if isDecDigit b then let p := parseNatAcc 0 bs; some (.int (p.1 : Int), p.2) else none
      | [] => none
  /-- the entries of an object up to and including the closing brace; `first`: no comma expected before the next entry -/
  def pEntries : Nat → Bool → Bytes → Option (KVs × Bytes)
    | 0, _, _ => none
    | fuel+1, first, bs =>
      match bs with
      | 0x7d :: r => some (.nil, r)
      | _ =>
        let bs' := if first then some bs else (match bs with | 0x2c :: r => some r | _ => none)
        match bs' with
        | some (0x22 :: r) =>
          (match unescStr (r.length + 1) r with
           | some (k, 0x3a :: r') =>
             (match pVal fuel r' with
              | some (v, r'') => (match pEntries fuel false r'' with | some (m, r3) => some (.cons k v m, r3) | none => none)
              | none => none)
           | _ => none)
        | _ => none
end

mutual
  /-- a fuel that suffices for `pVal` / `pEntries` on a tree's text (`pJson`): the node count, at most the text's length
      (`nodesT_le`) -/
  def nodesT : Tree → Nat
    | .str _ => 1
    | .int _ => 1
    | .map m => 1 + nodesK m
  def nodesK : KVs → Nat
    | .nil => 1
    | .cons _ v rest => 1 + nodesT v + nodesK rest
end

theorem natDec_head (n : Nat) : ∃ b t, natDec n = b :: t ∧ isDecDigit b = true := by
  induction n using natDec.induct with
  | case1 n h => exact ⟨_, [], by rw [natDec, if_pos h], isDecDigit_digit h⟩
  | case2 n h ih =>
    obtain ⟨b, t, hb, hd⟩ := ih
    exact ⟨b, t ++ [UInt8.ofNat (48 + n % 10)], by rw [natDec, if_neg h, hb]; rfl, hd⟩

theorem noDigit_cons (b : UInt8) (t : Bytes) (h : isDecDigit b = false) : NoDigitHead (b :: t) :=
  fun _ hx => Option.some.inj hx ▸ h

/-- what follows a value inside an object starts with `}`, `,` or `"` -/
theorem jsonKVs_follow (first : Bool) (m : KVs) (rest : Bytes) : NoDigitHead (jsonKVs first m ++ 0x7d :: rest) := by
  cases m with
  | nil => exact noDigit_cons 0x7d rest (by decide)
  | cons k v r => cases first <;> exact noDigit_cons _ _ (by decide)

theorem natDec_reads_back (n : Nat) (rest : Bytes) (hr : NoDigitHead rest) :
    ∃ b t, natDec n ++ rest = b :: t ∧ isDecDigit b = true ∧ parseNatAcc 0 (b :: t) = (n, rest) := by
  obtain ⟨b, t, hb, hd⟩ := natDec_head n
  refine ⟨b, t ++ rest, by rw [hb]; rfl, hd, ?_⟩
  rw [← List.cons_append, ← hb, parseNatAcc_natDec n 0 rest hr, Nat.zero_mul, Nat.zero_add]

theorem pVal_digit (fuel : Nat) (b : UInt8) (t : Bytes) (hd : isDecDigit b = true) :
    pVal (fuel + 1) (b :: t) = some (.int (parseNatAcc 0 (b :: t)).1, (parseNatAcc 0 (b :: t)).2) := by
  rw [pVal, if_pos hd]
  -- side conditions: a digit is none of `"`, `{`, `-`
  all_goals intro h; subst h; exact absurd hd (by decide)

theorem pVal_int (fuel : Nat) (n : Int) (rest : Bytes) (hr : NoDigitHead rest) :
    pVal (fuel + 1) (intDec n ++ rest) = some (.int n, rest) := by
  obtain ⟨b, t, hb, hd, hp⟩ := natDec_reads_back n.natAbs rest hr
  rw [intDec]
  by_cases hneg : n < 0
  · rw [if_pos hneg, List.cons_append, hb, pVal]
    simp only [hd, ↓reduceIte, hp]
    rw [Int.ofNat_natAbs_of_nonpos (Int.le_of_lt hneg), Int.neg_neg]
  · rw [if_neg hneg, hb, pVal_digit fuel b t hd, hp, Int.natAbs_of_nonneg (Int.not_lt.mp hneg)]

/-- the string round trip with the fuel the value parsers give it -/
theorem unescStr_esc_len (s rest : Bytes) :
    unescStr ((escStr s ++ 0x22 :: rest).length + 1) (escStr s ++ 0x22 :: rest) = some (s, rest) := by
  have := escStr_length_ge s
  exact unescStr_esc s rest _ (by rw [List.length_append]; omega)

theorem pEntries_cons (fuel : Nat) (first : Bool) {r r1 r2 r3 k : Bytes} {v : Tree} {m : KVs}
    (hk : unescStr (r.length + 1) r = some (k, 0x3a :: r1)) (hv : pVal fuel r1 = some (v, r2))
    (hm : pEntries fuel false r2 = some (m, r3)) :
    pEntries (fuel + 1) first ((if first then [] else [0x2c]) ++ 0x22 :: r) = some (.cons k v m, r3) := by
  cases first <;> simp only [pEntries, Bool.false_eq_true, ↓reduceIte, List.cons_append, List.nil_append, hk, hv, hm] <;> rfl

/-- values and entry lists together, by induction on the fuel (what the two parsers recurse on) -/
theorem pJson (fuel : Nat) :
    (∀ t rest, nodesT t ≤ fuel → NoDigitHead rest → pVal fuel (jsonVal t ++ rest) = some (t, rest)) ∧
    (∀ m first rest, nodesK m ≤ fuel → pEntries fuel first (jsonKVs first m ++ 0x7d :: rest) = some (m, rest)) := by
  induction fuel with
  | zero =>
    refine ⟨fun t _ hf => ?_, fun m _ _ hf => ?_⟩
    · cases t <;> simp [nodesT] at hf
    · cases m <;> simp [nodesK] at hf
  | succ fuel ih =>
    refine ⟨fun t rest hf hr => ?_, fun m first rest hf => ?_⟩
    · cases t with
      | str s => simp only [jsonVal, List.cons_append, List.append_assoc, List.nil_append, pVal, unescStr_esc_len s rest]
      | int n => exact pVal_int fuel n rest hr
      | map m =>
        simp only [nodesT] at hf
        simp only [jsonVal, List.cons_append, List.append_assoc, List.nil_append, pVal]
        rw [ih.2 m true rest (by omega)]
    · cases m with
      | nil => simp [jsonKVs, pEntries]
      | cons k v r =>
        simp only [nodesK] at hf
        have htext : jsonKVs first (.cons k v r) ++ 0x7d :: rest =
            (if first then [] else [0x2c]) ++
              0x22 :: (escStr k ++ 0x22 :: 0x3a :: (jsonVal v ++ (jsonKVs false r ++ 0x7d :: rest))) := by
          simp only [jsonKVs, List.append_assoc, List.cons_append, List.nil_append]
        rw [htext]
        exact pEntries_cons fuel first (unescStr_esc_len k _) (ih.1 v _ (by omega) (jsonKVs_follow false r rest))
          (ih.2 r false rest (by omega))

theorem pVal_json (t : Tree) (fuel : Nat) (rest : Bytes) (hf : nodesT t ≤ fuel) (hr : NoDigitHead rest) :
    pVal fuel (jsonVal t ++ rest) = some (t, rest) :=
  (pJson fuel).1 t rest hf hr

theorem pEntries_json (m : KVs) (fuel : Nat) (first : Bool) (rest : Bytes) (hf : nodesK m ≤ fuel) :
    pEntries fuel first (jsonKVs first m ++ 0x7d :: rest) = some (m, rest) :=
  (pJson fuel).2 m first rest hf

/-- `serde_json::to_vec(&game.metadata)` and `read_peppi_metadata` -/
def jsonMeta : Option KVs → Bytes
  | none => [0x6e, 0x75, 0x6c, 0x6c]
  | some m => jsonVal (.map m)
def parseMeta (bs : Bytes) : Res (Option KVs) :=
  if bs = [0x6e, 0x75, 0x6c, 0x6c] then .ok none else
  match pVal (bs.length + 1) bs with
  | some (.map m, []) => .ok (some m)
  | _ => .err "json"

mutual
  theorem nodesT_le : (t : Tree) → nodesT t ≤ (jsonVal t).length + 1
    | .str s => Nat.le_add_left 1 _
    | .int n => Nat.le_add_left 1 _
    | .map m => by
      have := nodesK_le true m
      rw [nodesT, jsonVal, List.length_cons, List.length_append]
      omega
  theorem nodesK_le : (first : Bool) → (m : KVs) → nodesK m ≤ (jsonKVs first m).length + 1
    | _, .nil => Nat.le_refl 1
    | first, .cons k v rest => by
      have h1 := nodesT_le v
      have h2 := nodesK_le false rest
      rw [nodesK, jsonKVs]
      simp only [List.length_append, List.length_cons]
      omega
end

/-- **C16, the JSON copy**: the text written for a metadata tree (or for its absence) reads back as the same tree, keys in the
    same order -/
theorem parseMeta_json (md : Option KVs) : parseMeta (jsonMeta md) = .ok md := by
  cases md with
  | none => rfl
  | some m =>
    have hne : jsonMeta (some m) ≠ [0x6e, 0x75, 0x6c, 0x6c] := fun h => absurd (List.cons.inj h).1 (by decide)
    have h := pVal_json (.map m) ((jsonVal (.map m)).length + 1) [] (nodesT_le (.map m)) (fun _ hb => by cases hb)
    rw [List.append_nil] at h
    rw [parseMeta, if_neg hne, jsonMeta, h]

theorem parseMeta_noPanic (b : Bytes) (s : String) : parseMeta b ≠ .panic s := by
  unfold parseMeta
  split
  · exact nofun
  · split <;> exact nofun

#print axioms unescStr_esc
#print axioms parseMeta_json
end Peppi
