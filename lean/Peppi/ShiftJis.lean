import Peppi.Rollbacks
/-! C19.  Model of `game/shift_jis.rs` (`fix_char`, `to_normalized`, the NUL-truncating decode with the Shift-JIS decoder as a
    parameter; code points are `Nat`s, `isScalar` is Rust's `char` validity), and that `fix_char` computes `normSpec`. -/
namespace Peppi

def isScalar (n : Nat) : Prop := n < 0xD800 ∨ (0xE000 ≤ n ∧ n < 0x110000)
instance (n : Nat) : Decidable (isScalar n) := by unfold isScalar; infer_instance

/-- `fix_char`: the `match` on the code point, then `char::try_from(c).unwrap()` -/
def fixChar (c : Nat) : Res Nat :=
  let c' :=
    if 0xff01 ≤ c ∧ c ≤ 0xff5e then c + 0x0020 - 0xff00
    else if c = 0x3000 then 0x20
    else if c = 0x2019 then 0x27
    else if c = 0x201d then 0x22
    else c
  if isScalar c' then .ok c' else .panic "fix_char: char::try_from"

/-- what the property says normalisation is -/
def normSpec (c : Nat) : Nat :=
  if 0xff01 ≤ c ∧ c ≤ 0xff5e then c - 0xfee0
  else if c = 0x3000 then 0x20
  else if c = 0x2019 then 0x27
  else if c = 0x201d then 0x22
  else c

def mapRes {α β} (f : α → Res β) : List α → Res (List β)
  | [] => .ok []
  | a :: as => match f a with
    | .ok b => (match mapRes f as with | .ok bs => .ok (b :: bs) | .err e => .err e | .panic s => .panic s)
    | .err e => .err e
    | .panic s => .panic s

/-- `to_normalized`: `chars().map(fix_char).collect()` -/
def toNormalized (s : List Nat) : Res (List Nat) := mapRes fixChar s

/-- `impl TryFrom<&[u8]> for MeleeString`, with the decoder as a parameter, returning its text (`player` runs `meleeField`:
    the same slice, an oracle for whether it decodes, the bytes kept) -/
def meleeString (sjis : List UInt8 → Option (List Nat)) (field : List UInt8) : Res (List Nat) :=
  let firstNull := field.takeWhile (· ≠ 0)          -- `s[0..position(0).unwrap_or(len)]`
  match sjis firstNull with
  | some s => .ok s
  | none => .err "invalid Shift JIS sequence"

/-- the characters normalisation changes -/
def normDomain (c : Nat) : Prop := (0xff01 ≤ c ∧ c ≤ 0xff5e) ∨ c = 0x3000 ∨ c = 0x2019 ∨ c = 0x201d
instance (c : Nat) : Decidable (normDomain c) := by unfold normDomain; infer_instance

/-- U+FF01..U+FF5E go to U+0021..U+007E, position by position -/
theorem normSpec_fullwidth (c : Nat) (h : 0xff01 ≤ c ∧ c ≤ 0xff5e) :
    normSpec c = c - 0xff01 + 0x21 ∧ 0x21 ≤ normSpec c ∧ normSpec c ≤ 0x7e := by
  unfold normSpec; simp only [h, and_self, ↓reduceIte]; omega

theorem normSpec_space : normSpec 0x3000 = 0x20 := by decide
theorem normSpec_squote : normSpec 0x2019 = 0x27 := by decide
theorem normSpec_dquote : normSpec 0x201d = 0x22 := by decide

theorem normSpec_other (c : Nat) (h : ¬ normDomain c) : normSpec c = c := by
  simp only [normDomain, not_or] at h
  simp only [normSpec, h, ↓reduceIte]

theorem normSpec_domain_ascii (c : Nat) (h : normDomain c) : 0x20 ≤ normSpec c ∧ normSpec c ≤ 0x7e := by
  rcases h with h | rfl | rfl | rfl
  · have := normSpec_fullwidth c h; omega
  all_goals decide

/-- stronger than idempotence: a normalised string holds no full-width form, ideographic space or right quotation mark -/
theorem normSpec_image (c : Nat) : ¬ normDomain (normSpec c) := by
  by_cases h : normDomain c
  · have := normSpec_domain_ascii c h
    unfold normDomain; omega
  · rw [normSpec_other c h]; exact h

theorem normSpec_idem (c : Nat) : normSpec (normSpec c) = normSpec c :=
  normSpec_other _ (normSpec_image c)

theorem normSpec_ascii (c : Nat) (h : c < 0x80) : normSpec c = c :=
  normSpec_other c (by unfold normDomain; omega)

/-- `fix_char` computes `normSpec`; the `unwrap` cannot fail, since a changed character is ASCII. -/
theorem fixChar_eq (c : Nat) (h : isScalar c) : fixChar c = .ok (normSpec c) ∧ isScalar (normSpec c) := by
  have hs : isScalar (normSpec c) := by
    by_cases hd : normDomain c
    · exact Or.inl (Nat.lt_of_le_of_lt (normSpec_domain_ascii c hd).2 (by decide))
    · rwa [normSpec_other c hd]
  refine ⟨?_, hs⟩
  have : c + 0x0020 - 0xff00 = c - 0xfee0 := by omega
  unfold fixChar; rw [this]; exact if_pos hs

theorem fixChar_idem (c : Nat) (h : isScalar c) : fixChar (normSpec c) = .ok (normSpec c) := by
  rw [(fixChar_eq _ (fixChar_eq c h).2).1, normSpec_idem]

/-- never a panic, on any string of scalar values -/
theorem toNormalized_ok (s : List Nat) (h : ∀ c ∈ s, isScalar c) : toNormalized s = .ok (s.map normSpec) := by
  induction s with
  | nil => rfl
  | cons a as ih =>
    have := ih fun c hc => h c (List.mem_cons_of_mem _ hc)
    simp only [toNormalized] at this
    simp only [toNormalized, mapRes, (fixChar_eq a (h a List.mem_cons_self)).1, this, List.map_cons]

theorem toNormalized_idem (s : List Nat) (h : ∀ c ∈ s, isScalar c) :
    toNormalized (s.map normSpec) = .ok (s.map normSpec) := by
  rw [toNormalized_ok _ (List.forall_mem_map.mpr fun a ha => (fixChar_eq a (h a ha)).2), List.map_map]
  exact congrArg _ (List.map_congr_left fun a _ => normSpec_idem a)

/-- bytes after the first NUL never influence the result -/
theorem meleeString_nul (sjis) (a b : List UInt8) (h : a.takeWhile (· ≠ 0) = b.takeWhile (· ≠ 0)) :
    meleeString sjis a = meleeString sjis b := by
  unfold meleeString; rw [h]

theorem meleeString_prefix (sjis) (p rest : List UInt8) (hp : ∀ x ∈ p, x ≠ 0) :
    meleeString sjis (p ++ 0 :: rest) = meleeString sjis p := by
  have hp' : ∀ x ∈ p, decide (x ≠ 0) = true := fun x hx => decide_eq_true (hp x hx)
  -- the first NUL of `p ++ 0 :: rest` is the one after `p`, and `p` has none
  have h1 : (p ++ 0 :: rest).takeWhile (· ≠ 0) = p := by
    rw [List.takeWhile_append_of_pos hp', List.takeWhile_cons_of_neg (by decide), List.append_nil]
  have h2 : p.takeWhile (· ≠ 0) = p := by
    simpa using List.takeWhile_append_of_pos (l₂ := []) hp'
  apply meleeString_nul
  rw [h1, h2]

example : toNormalized [0xff21, 0x3000, 0x2019, 0x201d, 0x3042, 0xff5e, 0xff5f] = .ok [0x41, 0x20, 0x27, 0x22, 0x3042, 0x7e, 0xff5f] := by decide

#print axioms toNormalized_idem
#print axioms meleeString_prefix
end Peppi
