import Peppi.Bytes
import Peppi.Rollbacks
/-! Model of `io/ubjson/{de,ser}.rs` (after the depth-limit repair). -/
namespace Peppi

mutual
  inductive Tree where
    | str (s : Bytes)
    | int (n : Int)
    | map (m : KVs)
  inductive KVs where
    | nil
    | cons (k : Bytes) (v : Tree) (rest : KVs)
end

def MAX_DEPTH : Nat := 127

/-- i32 from its big-endian bits, and back -/
def toI32 (n : Nat) : Int := if n < 2^31 then (n : Int) else (n : Int) - 2^32
def ofI32 (i : Int) : Nat := if 0 ≤ i then i.toNat else (i + 2^32).toNat

theorem ofI32_toI32 (n : Nat) (h : n < 2^32) : ofI32 (toI32 n) = n := by
  unfold ofI32 toI32
  by_cases hn : n < 2^31
  · rw [if_pos hn, if_pos (Int.natCast_nonneg n), Int.toNat_natCast]
  · rw [if_neg hn, if_neg (by omega), Int.sub_add_cancel, Int.toNat_natCast]
theorem toI32_ofI32 (i : Int) (h : -2^31 ≤ i ∧ i < 2^31) : toI32 (ofI32 i) = i := by
  unfold ofI32 toI32
  by_cases hi : 0 ≤ i
  · rw [if_pos hi, if_pos (by omega), Int.toNat_of_nonneg hi]
  · rw [if_neg hi, if_neg (by omega), Int.toNat_of_nonneg (by omega), Int.add_sub_cancel]
theorem ofI32_lt (i : Int) (h : -2^31 ≤ i ∧ i < 2^31) : ofI32 i < 256 ^ 4 := by
  unfold ofI32; split <;> omega

/-- `Map::insert` of serde_json with `preserve_order`: replace in place, else append -/
def KVs.insert : KVs → Bytes → Tree → KVs
  | .nil, k, v => .cons k v .nil
  | .cons k' v' rest, k, v => if k' = k then .cons k' v rest else .cons k' v' (rest.insert k v)

/-- for `KVs.WF`: the keys of a map are distinct -/
def KVs.hasKey : KVs → Bytes → Bool
  | .nil, _ => false
  | .cons k' _ rest, k => k' == k || rest.hasKey k

section Reader
variable (utf8 : Bytes → Bool)

/-- `to_utf8`: U8 length, bytes, `String::from_utf8` -/
def toUtf8 (bs : Bytes) : Res (Bytes × Bytes) :=
  match bs with
  | [] => .err "eof"
  | len :: rest =>
    if rest.length < len.toNat then .err "eof"
    else
      let s := rest.take len.toNat
      if utf8 s then .ok (s, rest.drop len.toNat) else .err "utf8"

mutual
  /-- `to_val` -/
  def toVal : Nat → Nat → Bytes → Res (Tree × Bytes)
    | 0, _, _ => .err "fuel"
    | fuel+1, depth, bs =>
      match bs with
      | [] => .err "eof"
      | 0x53 :: rest =>
        (match rest with
        | [] => .err "eof"
        | 0x55 :: rest' => (match toUtf8 utf8 rest' with
            | .ok (s, r) => .ok (.str s, r)
            | .err e => .err e
            | .panic p => .panic p)
        | _ :: _ => .err "expected 0x55")
      | 0x6c :: rest =>
        if rest.length < 4 then .err "eof" else .ok (.int (toI32 (fromBE (rest.take 4))), rest.drop 4)
      | 0x7b :: rest =>
        (match readMapLoop fuel (depth + 1) rest .nil with
        | .ok (m, r) => .ok (.map m, r)
        | .err e => .err e
        | .panic p => .panic p)
      | _ :: _ => .err "unexpected value type"
  /-- `read_map_` (depth check at entry) and its `while` loop with the accumulated map -/
  def readMapLoop : Nat → Nat → Bytes → KVs → Res (KVs × Bytes)
    | 0, _, _, _ => .err "fuel"
    | fuel+1, depth, bs, acc =>
      if depth > MAX_DEPTH then .err "too deep" else
      match bs with
      | [] => .err "eof"
      | 0x7d :: rest => .ok (acc, rest)
      | 0x55 :: rest =>
        (match toUtf8 utf8 rest with
        | .ok (k, r) =>
          (match toVal fuel depth r with
          | .ok (v, r') => readMapLoop fuel depth r' (acc.insert k v)
          | .err e => .err e
          | .panic p => .panic p)
        | .err e => .err e
        | .panic p => .panic p)
      | _ :: _ => .err "unexpected key type"
end

/-- `read_map` as called by `parse_metadata` (the opening brace is already consumed).  The fuel is not in the Rust; any amount
    above `bs.length` gives the same run (`ubj_fuel`). -/
def readMap (bs : Bytes) : Res (KVs × Bytes) := readMapLoop utf8 (2 * bs.length + 2) 1 bs .nil

end Reader

/-- `write_utf8`: panics if the string is longer than 255 bytes -/
def writeUtf8 (s : Bytes) : Res Bytes :=
  if s.length ≤ 255 then .ok ([0x55, UInt8.ofNat s.length] ++ s) else .panic "write_utf8: try_into u8"

/-- `>>=`; the `Monad` instance is in Res.lean, which this file does not import -/
def Res.bind {α β} (r : Res α) (f : α → Res β) : Res β :=
  match r with | .ok a => f a | .err e => .err e | .panic p => .panic p

mutual
  def writeVal : Tree → Res Bytes
    | .str s => (writeUtf8 s).bind fun b => .ok (0x53 :: b)
    | .int n => if -2^31 ≤ n ∧ n < 2^31 then .ok (0x6c :: toBE 4 (ofI32 n)) else .panic "write_map: i32 try_into"
    | .map m => (writeMap m).bind fun b => .ok (0x7b :: b ++ [0x7d])
  /-- `write_map` -/
  def writeMap : KVs → Res Bytes
    | .nil => .ok []
    | .cons k v rest => (writeUtf8 k).bind fun kb => (writeVal v).bind fun vb => (writeMap rest).bind fun rb => .ok (kb ++ vb ++ rb)
end

end Peppi
