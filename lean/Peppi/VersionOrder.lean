import Peppi.VersionProof
/-! C09, "exceeds the maximum, compared as major, minor, patch": the derived `Ord` is a total order and the version guard
    is downward closed in it. -/
namespace Peppi

theorem Ver.le_refl (a : Ver) : a.le a = true := by rw [Ver.le_iff]; omega

theorem Ver.le_total (a b : Ver) : a.le b = true ∨ b.le a = true := by
  rw [Ver.le_iff, Ver.le_iff]; omega

theorem Ver.le_trans (a b c : Ver) (h1 : a.le b = true) (h2 : b.le c = true) : a.le c = true := by
  rw [Ver.le_iff] at *; omega

theorem Ver.le_antisymm (a b : Ver) (h1 : a.le b = true) (h2 : b.le a = true) : a = b := by
  rw [Ver.le_iff] at *
  cases a; cases b; simp only [Ver.mk.injEq] at *; omega

theorem assertMaxVersion_down (v w : Ver) (h : v.le w = true) (hw : assertMaxVersion w = .ok ()) :
    assertMaxVersion v = .ok () := by
  rw [assertMaxVersion_le] at *; exact Ver.le_trans v w _ h hw

/-- at or above a refused version: refused, with the error (not a panic) -/
theorem assertMaxVersion_up (v w : Ver) (h : v.le w = true) (hv : assertMaxVersion v ≠ .ok ()) :
    assertMaxVersion w = .err "unsupported version" := by
  rcases assertMaxVersion_cases w with hw | hw
  · exact absurd (assertMaxVersion_down v w h hw.2) hv
  · exact hw.2

/-- the boundary: 3.16.0 is the greatest accepted version, 3.16.1 the least refused one -/
theorem assertMaxVersion_boundary :
    assertMaxVersion ⟨3, 16, 0⟩ = .ok () ∧ assertMaxVersion ⟨3, 16, 1⟩ = .err "unsupported version" ∧
    ∀ v : Ver, assertMaxVersion v = .ok () ∨ (⟨3, 16, 1⟩ : Ver).le v = true := by
  refine ⟨by decide, by decide, ?_⟩
  intro v
  rw [assertMaxVersion_iff, Ver.le_iff]
  dsimp only  -- the components of `⟨3, 16, 1⟩`, for `omega`
  omega

end Peppi
