import Peppi.Extracted
/-! the Arrow schema every generated struct declares (`data_type`: member names, types, since-versions) against the generator's
    field table `gen/resources/frames.json` (C14: "exactly those of the per-version field table"; C03: "present iff the
    version is at least the one that introduced it") -/
namespace Peppi
open Extracted

theorem schema_End : schemaMatchesJson End.views End.framesJson = true := by decide +kernel
theorem schema_Item : schemaMatchesJson Item.views Item.framesJson = true := by decide +kernel
theorem schema_ItemMisc : schemaMatchesJson ItemMisc.views ItemMisc.framesJson = true := by decide +kernel
theorem schema_Position : schemaMatchesJson Position.views Position.framesJson = true := by decide +kernel
theorem schema_Post : schemaMatchesJson Post.views Post.framesJson = true := by decide +kernel
theorem schema_Pre : schemaMatchesJson Pre.views Pre.framesJson = true := by decide +kernel
theorem schema_Start : schemaMatchesJson Start.views Start.framesJson = true := by decide +kernel
theorem schema_StateFlags : schemaMatchesJson StateFlags.views StateFlags.framesJson = true := by decide +kernel
theorem schema_TriggersPhysical : schemaMatchesJson TriggersPhysical.views TriggersPhysical.framesJson = true := by decide +kernel
theorem schema_Velocities : schemaMatchesJson Velocities.views Velocities.framesJson = true := by decide +kernel
theorem schema_Velocity : schemaMatchesJson Velocity.views Velocity.framesJson = true := by decide +kernel

end Peppi
