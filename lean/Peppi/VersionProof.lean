import Peppi.Version
/-! C20 and the core of C09: the gates compare lexicographically on (major, minor), `assert_max_version` is `≤ 3.16.0` on
    the triple, `from_str ∘ Display` is the identity, and `Ver.parse_iff` says exactly which strings `from_str` accepts. -/
namespace Peppi

theorem Ver.gte_iff (v : Ver) (M m : Nat) : v.gte M m = true ↔ (M < v.major ∨ (M = v.major ∧ m ≤ v.minor)) := by
  unfold Ver.gte; simp; omega

theorem Ver.lt_iff (v : Ver) (M m : Nat) : v.lt M m = true ↔ ¬ (M < v.major ∨ (M = v.major ∧ m ≤ v.minor)) := by
  unfold Ver.lt; rw [← Ver.gte_iff]; simp

theorem lex_trans {a b c d e f : Nat} (h1 : a < c ∨ (a = c ∧ b ≤ d)) (h2 : c < e ∨ (c = e ∧ d ≤ f)) :
    a < e ∨ (a = e ∧ b ≤ f) := by omega

theorem Ver.gte_mono (v w : Ver) (M m : Nat) (h : v.major < w.major ∨ (v.major = w.major ∧ v.minor ≤ w.minor))
    (hv : v.gte M m = true) : w.gte M m = true := by
  rw [Ver.gte_iff] at *; exact lex_trans hv h

/-- a later gate implies an earlier one (what makes nested `if version.gte` equal to per-field gates) -/
theorem Ver.gte_trans (v : Ver) (M m M' m' : Nat) (h : M' < M ∨ (M' = M ∧ m' ≤ m)) (hv : v.gte M m = true) : v.gte M' m' = true := by
  rw [Ver.gte_iff] at *; exact lex_trans h hv

theorem Ver.gte_22_of_30 {v : Ver} (h : v.gte 3 0 = true) : v.gte 2 2 = true := Ver.gte_trans v 3 0 2 2 (by omega) h

/-- the patch component plays no part in a gate -/
theorem Ver.gte_patch (v : Ver) (p M m : Nat) : ({ v with patch := p } : Ver).gte M m = v.gte M m := rfl
theorem Ver.lt_patch (v : Ver) (p M m : Nat) : ({ v with patch := p } : Ver).lt M m = v.lt M m := rfl
/-- exactly one of `gte` / `lt` holds, thresholds at the edge of `u8` included -/
theorem Ver.gte_or_lt (v : Ver) (M m : Nat) : (v.gte M m = true ∧ v.lt M m = false) ∨ (v.gte M m = false ∧ v.lt M m = true) := by
  unfold Ver.lt; cases v.gte M m <;> simp

theorem Ver.le_iff (a b : Ver) : a.le b = true ↔
    (a.major < b.major ∨ (a.major = b.major ∧ (a.minor < b.minor ∨ (a.minor = b.minor ∧ a.patch ≤ b.patch)))) := by
  unfold Ver.le; simp

theorem assertMaxVersion_cases (v : Ver) :
    (v.le MAX_SUPPORTED_VERSION = true ∧ assertMaxVersion v = .ok ()) ∨
    (v.le MAX_SUPPORTED_VERSION = false ∧ assertMaxVersion v = .err "unsupported version") := by
  unfold assertMaxVersion; cases v.le MAX_SUPPORTED_VERSION <;> simp

theorem assertMaxVersion_le (v : Ver) : assertMaxVersion v = .ok () ↔ v.le MAX_SUPPORTED_VERSION = true := by
  rcases assertMaxVersion_cases v with h | h <;> simp [h]

/-- C09 core: the guard refuses exactly the versions above 3.16.0 in (major, minor, patch) order -/
theorem assertMaxVersion_iff (v : Ver) : assertMaxVersion v = .ok () ↔
    (v.major < 3 ∨ (v.major = 3 ∧ (v.minor < 16 ∨ (v.minor = 16 ∧ v.patch = 0)))) := by
  rw [assertMaxVersion_le, Ver.le_iff]; simp only [MAX_SUPPORTED_VERSION]; omega

/-- everything needed of `Display for u8`, in one pass over the 256 values -/
theorem showU8_sweep : ∀ n, n < 256 → parseU8 (showU8 n) = some n ∧
    (showU8 n).all isDigit = true ∧ 1 ≤ (showU8 n).length ∧ (showU8 n).length ≤ 3 ∧
    ((showU8 n).head? = some '0' → n = 0) := by decide +kernel

theorem parseU8_showU8 (n : Nat) (h : n < 256) : parseU8 (showU8 n) = some n := (showU8_sweep n h).1
/-- `Display for u8`: 1–3 ASCII digits, no leading zero except for 0 itself -/
theorem showU8_canonical : ∀ n, n < 256 →
    (showU8 n).all isDigit = true ∧ 1 ≤ (showU8 n).length ∧ (showU8 n).length ≤ 3 ∧
    ((showU8 n).head? = some '0' → n = 0) := fun n h => (showU8_sweep n h).2

theorem showU8_nodot (n : Nat) (hn : n < 256) : (showU8 n).all (· ≠ '.') = true := by
  rw [List.all_eq_true]
  intro c hc
  -- every character is a digit, and `'.'` is not one
  have hdig : isDigit c = true := List.all_eq_true.mp (showU8_canonical n hn).1 c hc
  refine decide_eq_true ?_
  rintro rfl
  exact absurd hdig (by decide)

theorem splitDot_ne_nil (s : List Char) : splitDot s ≠ [] := by
  induction s with
  | nil => simp [splitDot]
  | cons c cs ih =>
    simp only [splitDot]
    split
    · simp
    · split <;> simp

theorem splitDot_append (a : List Char) (ha : a.all (· ≠ '.') = true) (rest : List Char) :
    splitDot (a ++ '.' :: rest) = a :: splitDot rest := by
  induction a with
  | nil => simp [splitDot]
  | cons c cs ih =>
    simp only [List.all_cons, Bool.and_eq_true, decide_eq_true_eq] at ha
    simp only [List.cons_append, splitDot, ha.1, ↓reduceIte, ih ha.2]

theorem splitDot_nodot (a : List Char) (ha : a.all (· ≠ '.') = true) : splitDot a = [a] := by
  induction a with
  | nil => simp [splitDot]
  | cons c cs ih =>
    simp only [List.all_cons, Bool.and_eq_true, decide_eq_true_eq] at ha
    simp only [splitDot, ha.1, ↓reduceIte, ih ha.2]

/-- C20: displaying any version and parsing the result returns the same version. -/
theorem Ver.parse_display (v : Ver) (h : v.WF) : Ver.parse v.display = .ok v := by
  obtain ⟨h1, h2, h3⟩ := h
  unfold Ver.parse Ver.display
  have : showU8 v.major ++ ['.'] ++ showU8 v.minor ++ ['.'] ++ showU8 v.patch
      = showU8 v.major ++ '.' :: (showU8 v.minor ++ '.' :: showU8 v.patch) := by simp
  rw [this, splitDot_append _ (showU8_nodot _ h1), splitDot_append _ (showU8_nodot _ h2),
    splitDot_nodot _ (showU8_nodot _ h3)]
  simp [parseU8_showU8 _ h1, parseU8_showU8 _ h2, parseU8_showU8 _ h3]

def decVal : List Char → Nat → Nat
  | [], acc => acc
  | c :: cs, acc => decVal cs (acc * 10 + digitVal c)

/-- "an integer in 0..255" as the code reads it: optional single `+`, at least one ASCII digit,
    nothing else, value ≤ 255 (leading zeros allowed) -/
def U8Lit (s : List Char) (n : Nat) : Prop :=
  ∃ ds, (s = ds ∨ s = '+' :: ds) ∧ ds ≠ [] ∧ ds.all isDigit = true ∧ decVal ds 0 = n ∧ n ≤ 255

theorem le_decVal (ds : List Char) (a : Nat) : a ≤ decVal ds a := by
  induction ds generalizing a with
  | nil => simp [decVal]
  | cons c cs ih =>
    calc a ≤ a * 10 := Nat.le_mul_of_pos_right a (by decide)
      _ ≤ a * 10 + digitVal c := Nat.le_add_right _ _
      _ ≤ decVal cs (a * 10 + digitVal c) := ih _

theorem parseDigits_iff (ds : List Char) (acc n : Nat) (hacc : acc ≤ 255) :
    parseDigits ds acc = some n ↔ (ds.all isDigit = true ∧ decVal ds acc = n ∧ n ≤ 255) := by
  induction ds generalizing acc with
  | nil => simp [parseDigits, decVal]; omega
  | cons c cs ih =>
    simp only [parseDigits, List.all_cons, Bool.and_eq_true, decVal]
    by_cases hd : isDigit c = true
    · simp only [hd, ↓reduceIte, true_and]
      by_cases hle : acc * 10 + digitVal c ≤ 255
      · simp only [hle, ↓reduceIte]; exact ih _ hle
      · simp only [hle, ↓reduceIte, reduceCtorEq, false_iff, not_and]
        intro _ h; have := le_decVal cs (acc * 10 + digitVal c); omega
    · simp [hd]

theorem isDigit_plus : isDigit '+' = false := by decide

theorem parseU8_plus (d : Char) (ds : List Char) : parseU8 ('+' :: d :: ds) = parseDigits (d :: ds) 0 := rfl

/-- without a leading `+` the string goes to the digit loop as it is (which rejects a lone `-` like any non-digit) -/
theorem parseU8_cons (c : Char) (cs : List Char) (hc : c ≠ '+') : parseU8 (c :: cs) = parseDigits (c :: cs) 0 := by
  unfold parseU8
  split
  · contradiction
  · next h => exact absurd (List.cons.inj h).1 hc
  · next h => exact h ▸ rfl
  · next h => exact absurd (List.cons.inj h).1 hc
  · rfl

theorem parseU8_iff (s : List Char) (n : Nat) : parseU8 s = some n ↔ U8Lit s n := by
  have key := fun ds => parseDigits_iff ds 0 n (Nat.zero_le _)
  constructor
  · intro h
    cases s with
    | nil => cases h
    | cons c cs =>
      by_cases hc : c = '+'
      · subst hc
        cases cs with
        | nil => cases h
        | cons d ds =>
          rw [parseU8_plus] at h
          exact ⟨d :: ds, Or.inr rfl, List.cons_ne_nil _ _, (key _).mp h⟩
      · rw [parseU8_cons c cs hc] at h
        exact ⟨c :: cs, Or.inl rfl, List.cons_ne_nil _ _, (key _).mp h⟩
  · rintro ⟨ds, hs, hne, hd⟩
    obtain ⟨d, ds, rfl⟩ := List.exists_cons_of_ne_nil hne
    have hplus : d ≠ '+' := fun e => by rw [e] at hd; simp [isDigit_plus] at hd
    rcases hs with rfl | rfl
    · rw [parseU8_cons d ds hplus]
      exact (key _).mpr hd
    · rw [parseU8_plus]
      exact (key _).mpr hd

def joinDot : List (List Char) → List Char
  | [] => []
  | [a] => a
  | a :: rest => a ++ '.' :: joinDot rest

theorem joinDot_cons_cons (c : Char) (h : List Char) (t : List (List Char)) :
    joinDot ((c :: h) :: t) = c :: joinDot (h :: t) := by
  cases t <;> rfl

theorem splitDot_spec (s : List Char) :
    (splitDot s).all (fun p => p.all (· ≠ '.')) = true ∧ joinDot (splitDot s) = s := by
  induction s with
  | nil => exact ⟨rfl, rfl⟩
  | cons c cs ih =>
    -- `splitDot cs` is some `h :: t`; by `ih` the piece `h` and the pieces of `t` are dot-free, and `h :: t` joins to `cs`
    obtain ⟨h, t, hsp⟩ := List.exists_cons_of_ne_nil (splitDot_ne_nil cs)
    rw [hsp, List.all_cons, Bool.and_eq_true] at ih
    obtain ⟨⟨hh, ht⟩, hj⟩ := ih
    by_cases hc : c = '.'
    · -- a dot opens a new, empty piece
      have hsplit : splitDot (c :: cs) = [] :: h :: t := by rw [splitDot, if_pos hc, hsp]
      rw [hsplit]
      constructor
      · rw [List.all_cons, List.all_cons, hh, ht]
        rfl
      · rw [hc]
        exact congrArg ('.' :: ·) hj
    · -- any other character goes in front of the first piece
      have hsplit : splitDot (c :: cs) = (c :: h) :: t := by rw [splitDot, if_neg hc, hsp]
      rw [hsplit]
      constructor
      · rw [List.all_cons, List.all_cons, decide_eq_true hc, hh, ht]
        rfl
      · rw [joinDot_cons_cons, hj]

/-- C20: `from_str` accepts exactly three dot-separated `U8Lit`s and returns their values. -/
theorem Ver.parse_iff (s : List Char) (v : Ver) : Ver.parse s = .ok v ↔
    ∃ a b c, s = a ++ '.' :: (b ++ '.' :: c) ∧ a.all (· ≠ '.') = true ∧ b.all (· ≠ '.') = true ∧ c.all (· ≠ '.') = true ∧
      U8Lit a v.major ∧ U8Lit b v.minor ∧ U8Lit c v.patch := by
  constructor
  · intro h
    unfold Ver.parse at h
    split at h
    · rename_i a b c hsp
      have hspec := splitDot_spec s
      rw [hsp] at hspec
      simp only [List.all_cons, List.all_nil, Bool.and_true, Bool.and_eq_true, joinDot] at hspec
      cases ha : parseU8 a with
      | none => simp [ha] at h
      | some x => cases hb : parseU8 b with
        | none => simp [ha, hb] at h
        | some y => cases hc : parseU8 c with
          | none => simp [ha, hb, hc] at h
          | some z =>
            simp only [ha, hb, hc, Res.ok.injEq] at h
            subst h
            exact ⟨a, b, c, hspec.2.symm, hspec.1.1, hspec.1.2.1, hspec.1.2.2,
              (parseU8_iff _ _).mp ha, (parseU8_iff _ _).mp hb, (parseU8_iff _ _).mp hc⟩
    · simp at h
  · rintro ⟨a, b, c, rfl, ha, hb, hc, la, lb, lc⟩
    unfold Ver.parse
    rw [splitDot_append _ ha, splitDot_append _ hb, splitDot_nodot _ hc]
    simp [(parseU8_iff _ _).mpr la, (parseU8_iff _ _).mpr lb, (parseU8_iff _ _).mpr lc]

/-- `from_str` has no third outcome: what it does not accept is an error, never a panic -/
theorem Ver.parse_total (s : List Char) : (∃ v, Ver.parse s = .ok v) ∨ (∃ e, Ver.parse s = .err e) := by
  unfold Ver.parse
  split
  · split
    · exact Or.inr ⟨_, rfl⟩
    · split
      · exact Or.inr ⟨_, rfl⟩
      · split
        · exact Or.inr ⟨_, rfl⟩
        · exact Or.inl ⟨_, rfl⟩
  · exact Or.inr ⟨_, rfl⟩

example : Ver.parse "3.16.0".toList = .ok ⟨3, 16, 0⟩ := by decide +kernel
example : Ver.parse "3.16".toList = .err "invalid version" := by decide +kernel

#print axioms Ver.parse_iff
#print axioms Ver.parse_display
#print axioms parseU8_iff

end Peppi
