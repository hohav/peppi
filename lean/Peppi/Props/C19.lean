/- Property C19 — Name fields decode as Shift-JIS up to the first NUL; normalisation is exact

   Statements of the machine-checked theorems this property's check relies on.  Each statement is
   spelled out here and proved from the lemma of the same name under `Peppi/` (generated once by
   `bin/mkprops.py`, then kept as source).  What is proved and what is partial: DESIGN.md §4. -/
import Peppi.ShiftJis
import Peppi.Lemmas.C19
import Peppi.ShiftJisMore
set_option linter.unusedVariables false
namespace Peppi.Props.C19

/- from `Peppi.ShiftJis` -/
theorem fixChar_eq (c : Nat) (h : isScalar c) : fixChar c = .ok (normSpec c) ∧ isScalar (normSpec c) :=
  _root_.Peppi.fixChar_eq c h

/- from `Peppi.ShiftJis` -/
theorem fixChar_idem (c : Nat) (h : isScalar c) : fixChar (normSpec c) = .ok (normSpec c) :=
  _root_.Peppi.fixChar_idem c h

/- from `Peppi.ShiftJis` -/
theorem toNormalized_ok (s : List Nat) (h : ∀ c ∈ s, isScalar c) : toNormalized s = .ok (s.map normSpec) :=
  _root_.Peppi.toNormalized_ok s h

/- from `Peppi.ShiftJis` -/
theorem toNormalized_idem (s : List Nat) (h : ∀ c ∈ s, isScalar c) :
    toNormalized (s.map normSpec) = .ok (s.map normSpec) :=
  _root_.Peppi.toNormalized_idem s h

/- from `Peppi.ShiftJis` -/
theorem meleeString_nul (sjis) (a b : List UInt8) (h : a.takeWhile (· ≠ 0) = b.takeWhile (· ≠ 0)) :
    meleeString sjis a = meleeString sjis b :=
  _root_.Peppi.meleeString_nul sjis a b h

/- from `Peppi.ShiftJis` -/
theorem meleeString_prefix (sjis) (p rest : List UInt8) (hp : ∀ x ∈ p, x ≠ 0) :
    meleeString sjis (p ++ 0 :: rest) = meleeString sjis p :=
  _root_.Peppi.meleeString_prefix sjis p rest hp

/- from `Peppi.Lemmas.C19` -/
open Extracted in
theorem meleeField_ok (T : TextOracle) (b s : Bytes) (h : meleeField T b = .ok s) : s = untilNul b ∧ T.sjisOk (untilNul b) = true :=
  _root_.Peppi.meleeField_ok T b s h

/- from `Peppi.Lemmas.C19` -/
open Extracted in
theorem player_nameTag (T : TextOracle) (port : Nat) (v0 : Bytes) (isTeams : Bool) (v1_0 : Option Bytes) (b : Bytes)
    (n c v3_11 : Option Bytes) :
    Res.Post (fun o => ∀ p, o = some p → p.nameTag = some (untilNul b) ∧ T.sjisOk (untilNul b) = true)
      (player T port v0 isTeams v1_0 (some b) n c v3_11) :=
  _root_.Peppi.player_nameTag T port v0 isTeams v1_0 b n c v3_11

/- from `Peppi.Lemmas.C19` -/
open Extracted in
theorem C19_nameTag_slice (T : TextOracle) (b : Bytes) (n : Nat) (hn : n < 4) (p : Player)
    (h : player T n (((List.range MAX_PLAYERS).map fun i => (b.drop (100 + 36 * i)).take 36).getD n []) ((b.getD 12 0).toNat != 0)
          (some ((b.drop (320 + 8 * n)).take 8)) (some ((b.drop (352 + 16 * n)).take 16))
          (some ((b.drop (420 + 31 * n)).take 31)) (some ((b.drop (544 + 10 * n)).take 10)) (some ((b.drop (584 + 29 * n)).take 29))
        = .ok (some p)) :
    p.nameTag = some (untilNul ((b.drop (352 + 16 * n)).take 16)) :=
  _root_.Peppi.C19_nameTag_slice T b n hn p h

/- from `Peppi.ShiftJis` -/
theorem normSpec_fullwidth (c : Nat) (h : 0xff01 ≤ c ∧ c ≤ 0xff5e) :
    normSpec c = c - 0xff01 + 0x21 ∧ 0x21 ≤ normSpec c ∧ normSpec c ≤ 0x7e :=
  _root_.Peppi.normSpec_fullwidth c h

/- from `Peppi.ShiftJis` -/
theorem normSpec_other (c : Nat) (h : ¬ normDomain c) : normSpec c = c :=
  _root_.Peppi.normSpec_other c h

/- from `Peppi.ShiftJis` -/
theorem normSpec_image (c : Nat) : ¬ normDomain (normSpec c) :=
  _root_.Peppi.normSpec_image c

/- from `Peppi.ShiftJis` -/
theorem normSpec_idem (c : Nat) : normSpec (normSpec c) = normSpec c :=
  _root_.Peppi.normSpec_idem c

/- from `Peppi.ShiftJisMore` -/
theorem toNormalized_image (s : List Nat) (h : ∀ c ∈ s, isScalar c) :
    ∃ t, toNormalized s = .ok t ∧ t.length = s.length ∧ (∀ c ∈ t, ¬ normDomain c ∧ isScalar c) ∧
      ∀ i (hi : i < s.length), t[i]? = some (normSpec s[i]) :=
  _root_.Peppi.toNormalized_image s h

/- from `Peppi.ShiftJisMore` -/
theorem toNormalized_fixed (s : List Nat) (h : ∀ c ∈ s, isScalar c) (hd : ∀ c ∈ s, ¬ normDomain c) :
    toNormalized s = .ok s :=
  _root_.Peppi.toNormalized_fixed s h hd

/- from `Peppi.ShiftJisMore` -/
theorem meleeString_cases (sjis : List UInt8 → Option (List Nat)) (field : List UInt8) :
    (∃ s, sjis (field.takeWhile (· ≠ 0)) = some s ∧ meleeString sjis field = .ok s) ∨
    (sjis (field.takeWhile (· ≠ 0)) = none ∧ meleeString sjis field = .err "invalid Shift JIS sequence") :=
  _root_.Peppi.meleeString_cases sjis field

end Peppi.Props.C19
