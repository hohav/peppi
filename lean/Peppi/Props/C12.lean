/- Property C12 — Incremental parsing equals one-shot parsing for any read fragmentation

   Statements of the machine-checked theorems this property's check relies on.  Each statement is
   spelled out here and proved from the lemma of the same name under `Peppi/` (generated once by
   `bin/mkprops.py`, then kept as source).  What is proved and what is partial: DESIGN.md §4. -/
import Peppi.Lemmas.C12Cols
import Peppi.Lemmas.C12Start
import Peppi.Lemmas.C12
import Peppi.Stream
import Peppi.Prog
import Peppi.ReadProg
import Peppi.ReadStream
import Peppi.Local
import Peppi.Lemmas.Trunc
set_option linter.unusedVariables false
namespace Peppi.Props.C12

/- from `Peppi.Lemmas.C12Cols` -/
open Extracted in
theorem C12_final (T : TextOracle) (hash : Bool) (x : Bytes) :
    readP T { skipFrames := false, computeHash := hash } x =
      (match parseHeader x with
       | .ok (rawLen, r1) =>
         (match parseStart T r1 with
          | .ok (ps, r2) =>
            (match eventLoop (r2.length + 1) rawLen ps r2 with
             | .ok (ps', r3) => readTail T rawLen ps' r3
             | .err e => .err e
             | .panic p => .panic p)
          | .err e => .err e
          | .panic p => .panic p)
       | .err e => .err e
       | .panic p => .panic p) :=
  _root_.Peppi.C12_final T hash x

/- from `Peppi.Lemmas.C12Cols` -/
open Extracted in
theorem eventLoop_extends (fuel rawLen : Nat) (ps : ParseState) (bs : Bytes) (ps' : ParseState) (rest : Bytes)
    (h : eventLoop fuel rawLen ps bs = .ok (ps', rest)) : ps.st.frames.Ext ps'.st.frames :=
  _root_.Peppi.eventLoop_extends fuel rawLen ps bs ps' rest h

/- from `Peppi.Lemmas.C12Cols` -/
open Extracted in
theorem parseEvent_extends (ps : ParseState) (bs : Bytes) (code : Nat) (ps' : ParseState) (rest : Bytes)
    (h : parseEvent ps bs = .ok ((code, ps'), rest)) : ps.st.frames.Ext ps'.st.frames :=
  _root_.Peppi.parseEvent_extends ps bs code ps' rest h

/- from `Peppi.Lemmas.C12Cols` -/
open Extracted in
theorem handleEvent_extends (st : PState) (code : Nat) (buf : Bytes) : Res.Post (ColsExtend st) (handleEvent st code buf) :=
  _root_.Peppi.handleEvent_extends st code buf

/- from `Peppi.Lemmas.C12Start` -/
open Extracted in
theorem parseStart_count (T : TextOracle) (bs : Bytes) (ps : ParseState) (rest : Bytes)
    (h : parseStart T bs = .ok (ps, rest)) : ps.bytesRead + rest.length = bs.length :=
  _root_.Peppi.parseStart_count T bs ps rest h

/- from `Peppi.Lemmas.C12Start` -/
open Extracted in
theorem parseStart_then_event_count (T : TextOracle) (bs : Bytes) (ps : ParseState) (r1 : Bytes) (code : Nat) (ps' : ParseState) (r2 : Bytes)
    (h1 : parseStart T bs = .ok (ps, r1)) (h2 : parseEvent ps r1 = .ok ((code, ps'), r2)) : ps'.bytesRead + r2.length = bs.length :=
  _root_.Peppi.parseStart_then_event_count T bs ps r1 code ps' r2 h1 h2

/- from `Peppi.Lemmas.C12` -/
open Extracted in
theorem parseEvent_count (ps : ParseState) (bs : Bytes) (code : Nat) (ps' : ParseState) (rest : Bytes)
    (h : parseEvent ps bs = .ok ((code, ps'), rest)) :
    ps'.bytesRead + rest.length = ps.bytesRead + bs.length :=
  _root_.Peppi.parseEvent_count ps bs code ps' rest h

/- from `Peppi.Lemmas.C12Cols` -/
open Extracted in
theorem handleEvent_ids (st : PState) (code : Nat) (buf : Bytes) : Res.Post (IdsExtend st) (handleEvent st code buf) :=
  _root_.Peppi.handleEvent_ids st code buf

/- from `Peppi.Stream` -/
theorem readExactS_flat : ∀ (s : Stream) (n : Nat),
    (∀ b s', readExactS n s = .ok (b, s') → Rd.take n s.flatten = .ok (b, s'.flatten)) ∧
    (∀ e, readExactS n s = .err e → ∃ e', Rd.take n s.flatten = .err e') ∧
    (∀ p, readExactS n s ≠ .panic p) :=
  _root_.Peppi.readExactS_flat 

/- from `Peppi.Prog` -/
open Peppi.Prog in
theorem frag {α} (p : Prog α) : ∀ (h : HSrc),
    (∀ a rest, p.run h.pieces.flatten = .ok (a, rest) →
      ∃ s' used, p.runS h = .ok (a, ⟨s', h.fed.map (· ++ used)⟩) ∧ s'.flatten = rest ∧ h.pieces.flatten = used ++ rest) ∧
    (∀ e, p.run h.pieces.flatten = .err e → ∃ e', p.runS h = .err e') ∧
    (∀ x, p.run h.pieces.flatten = .panic x → p.runS h = .panic x) :=
  _root_.Peppi.Prog.frag p

/- from `Peppi.ReadProg` -/
open Extracted Peppi.Prog in
theorem run_readProg (T : TextOracle) (opts : Opts) (fuel : Nat) (x : Bytes) (hf : 2 * x.length + 2 ≤ fuel) :
    (readProg T opts fuel).run x = readP T opts x :=
  _root_.Peppi.Prog.run_readProg T opts fuel x hf

/- from `Peppi.ReadStream` -/
open Extracted Prog in
theorem readSlpS_frag (T : TextOracle) (opts : Opts) (s : Stream) :
    (∀ g, readSlp T opts s.flatten = .ok g →
      ∃ fed, readSlpS T opts s = .ok (g, fed) ∧
        (opts.computeHash = true → ∃ used rest, fed = some used ∧ s.flatten = used ++ rest ∧ g.hashedLen = some used.length) ∧
        (opts.computeHash = false → fed = none ∧ g.hashedLen = none)) ∧
    (∀ e, readSlp T opts s.flatten = .err e → ∃ e', readSlpS T opts s = .err e') ∧
    (∀ p, readSlp T opts s.flatten = .panic p → readSlpS T opts s = .panic p) :=
  _root_.Peppi.readSlpS_frag T opts s

/- from `Peppi.ReadStream` -/
open Extracted Prog in
theorem parseEventS_frag (ps : ParseState) (h : HSrc) (code : Nat) (ps' : ParseState) (rest : Bytes)
    (hp : parseEvent ps h.pieces.flatten = .ok ((code, ps'), rest)) :
    ∃ s' used, (parseEventP ps).runS h = .ok ((code, ps'), ⟨s', h.fed.map (· ++ used)⟩) ∧ s'.flatten = rest ∧
      h.pieces.flatten = used ++ rest ∧ ps'.bytesRead = ps.bytesRead + used.length :=
  _root_.Peppi.parseEventS_frag ps h code ps' rest hp

/- from `Peppi.ReadStream` -/
open Extracted Prog in
theorem parseHeaderS_frag (h : HSrc) (rawLen : Nat) (rest : Bytes) (hp : parseHeader h.pieces.flatten = .ok (rawLen, rest)) :
    ∃ s' used, parseHeaderP.runS h = .ok (rawLen, ⟨s', h.fed.map (· ++ used)⟩) ∧ s'.flatten = rest ∧ h.pieces.flatten = used ++ rest :=
  _root_.Peppi.parseHeaderS_frag h rawLen rest hp

/- from `Peppi.ReadStream` -/
open Extracted Prog in
theorem parseStartS_frag (T : TextOracle) (h : HSrc) (ps : ParseState) (rest : Bytes) (hp : parseStart T h.pieces.flatten = .ok (ps, rest)) :
    ∃ s' used, (parseStartP T).runS h = .ok (ps, ⟨s', h.fed.map (· ++ used)⟩) ∧ s'.flatten = rest ∧ h.pieces.flatten = used ++ rest :=
  _root_.Peppi.parseStartS_frag T h ps rest hp

/- from `Peppi.Local` -/
open Extracted in
theorem local_parseStart (T : TextOracle) : Rd.Local (parseStart T) :=
  _root_.Peppi.local_parseStart T

/- from `Peppi.Local` -/
open Extracted in
theorem local_parseEvent (ps : ParseState) : Rd.Local (parseEvent ps) :=
  _root_.Peppi.local_parseEvent ps

/- from `Peppi.Lemmas.Trunc` -/
open Extracted in
theorem local_parseMetadata (utf8 st) : Rd.Local (parseMetadata utf8 st) :=
  _root_.Peppi.local_parseMetadata utf8 st

end Peppi.Props.C12
