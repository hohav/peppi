/- Property C07 — A replay file cut short at any byte never yields a partial game, panic or hang

   Statements of the machine-checked theorems this property's check relies on.  Each statement is
   spelled out here and proved from the lemma of the same name under `Peppi/` (generated once by
   `bin/mkprops.py`, then kept as source).  What is proved and what is partial: DESIGN.md §4. -/
import Peppi.Lemmas.Unified
import Peppi.Lemmas.Trunc
import Peppi.Lemmas.Canon
import Peppi.Lemmas.Skip
import Peppi.Lemmas.ArrowStream
import Peppi.Lemmas.PeppiRead
import Peppi.Lemmas.Example
import Peppi.SlppCut
import Peppi.TarCut
import Peppi.SlppCutExample
import Peppi.Local
set_option linter.unusedVariables false
namespace Peppi.Props.C07

/- from `Peppi.Lemmas.Unified` -/
open Extracted in
theorem C07_any (T : TextOracle) (r : Replay) (s : Start) (gk : Option GeckoBlocks) (h : r.WFAny T s gk) (hash : Bool)
    (n : Nat) (hn : n < (r.encodeAny s.version (portOccupancy s) gk).length) :
    ∃ e, readSlp T { skipFrames := false, computeHash := hash } ((r.encodeAny s.version (portOccupancy s) gk).take n) = .err e :=
  _root_.Peppi.C07_any T r s gk h hash n hn

/- from `Peppi.Lemmas.Unified` -/
open Extracted in
theorem C07_any_skip (T : TextOracle) (r : Replay) (s : Start) (gk : Option GeckoBlocks) (h : r.WFAny T s gk)
    (e : Bytes) (hfe : r.fend = some e) (hash : Bool)
    (n : Nat) (hn : n < (r.encodeAny s.version (portOccupancy s) gk).length) :
    ∃ err, readSlp T { skipFrames := true, computeHash := hash } ((r.encodeAny s.version (portOccupancy s) gk).take n) = .err err :=
  _root_.Peppi.C07_any_skip T r s gk h e hfe hash n hn

/- from `Peppi.Lemmas.Trunc` -/
open Extracted in
theorem C07_slp_general (T : TextOracle) (opts : Opts) (x : Bytes) (g : Game) (h : readP T opts x = .ok (g, []))
    (n : Nat) (hn : n < x.length) : ∃ e, readSlp T opts (x.take n) = .err e :=
  _root_.Peppi.C07_slp_general T opts x g h n hn

/- from `Peppi.Lemmas.Canon` -/
open Extracted in
theorem C07_slp_A (T : TextOracle) (r : Replay) (s : Start) (h : r.WF T s) (hash : Bool) (n : Nat)
    (hn : n < (r.encode s.version (portOccupancy s)).length) :
    ∃ e, readSlp T { skipFrames := false, computeHash := hash } ((r.encode s.version (portOccupancy s)).take n) = .err e :=
  _root_.Peppi.C07_slp_A T r s h hash n hn

/- from `Peppi.Lemmas.Canon` -/
open Extracted in
theorem C07_slp_B (T : TextOracle) (r : Replay) (s : Start) (h : r.WFB T s) (hash : Bool) (n : Nat)
    (hn : n < (r.encodeB s.version (portOccupancy s)).length) :
    ∃ e, readSlp T { skipFrames := false, computeHash := hash } ((r.encodeB s.version (portOccupancy s)).take n) = .err e :=
  _root_.Peppi.C07_slp_B T r s h hash n hn

/- from `Peppi.Lemmas.Canon` -/
open Extracted in
theorem C07_slp_C (T : TextOracle) (r : Replay) (s : Start) (h : r.WFC T s) (hash : Bool) (n : Nat)
    (hn : n < (r.encodeC s.version (portOccupancy s)).length) :
    ∃ e, readSlp T { skipFrames := false, computeHash := hash } ((r.encodeC s.version (portOccupancy s)).take n) = .err e :=
  _root_.Peppi.C07_slp_C T r s h hash n hn

/- from `Peppi.Lemmas.Canon` -/
open Extracted in
theorem C07_slp_G (T : TextOracle) (r : Replay) (s : Start) (gk : GeckoBlocks) (h : r.WFG T s gk) (hash : Bool)
    (n : Nat) (hn : n < (r.encodeG s.version (portOccupancy s) gk).length) :
    ∃ err, readSlp T { skipFrames := false, computeHash := hash } ((r.encodeG s.version (portOccupancy s) gk).take n) = .err err :=
  _root_.Peppi.C07_slp_G T r s gk h hash n hn

/- from `Peppi.Lemmas.Skip` -/
open Extracted in
theorem C07_slp_skip_A (T : TextOracle) (r : Replay) (s : Start) (h : r.WF T s) (e : Bytes) (hfe : r.fend = some e) (hash : Bool)
    (n : Nat) (hn : n < (r.encode s.version (portOccupancy s)).length) :
    ∃ err, readSlp T { skipFrames := true, computeHash := hash } ((r.encode s.version (portOccupancy s)).take n) = .err err :=
  _root_.Peppi.C07_slp_skip_A T r s h e hfe hash n hn

/- from `Peppi.Lemmas.Skip` -/
open Extracted in
theorem C07_slp_skip_B (T : TextOracle) (r : Replay) (s : Start) (h : r.WFB T s) (e : Bytes) (hfe : r.fend = some e) (hash : Bool)
    (n : Nat) (hn : n < (r.encodeB s.version (portOccupancy s)).length) :
    ∃ err, readSlp T { skipFrames := true, computeHash := hash } ((r.encodeB s.version (portOccupancy s)).take n) = .err err :=
  _root_.Peppi.C07_slp_skip_B T r s h e hfe hash n hn

/- from `Peppi.Lemmas.Skip` -/
open Extracted in
theorem C07_slp_skip_C (T : TextOracle) (r : Replay) (s : Start) (h : r.WFC T s) (e : Bytes) (hfe : r.fend = some e) (hash : Bool)
    (n : Nat) (hn : n < (r.encodeC s.version (portOccupancy s)).length) :
    ∃ err, readSlp T { skipFrames := true, computeHash := hash } ((r.encodeC s.version (portOccupancy s)).take n) = .err err :=
  _root_.Peppi.C07_slp_skip_C T r s h e hfe hash n hn

/- from `Peppi.Lemmas.Skip` -/
open Extracted in
theorem C07_slp_skip_G (T : TextOracle) (r : Replay) (s : Start) (gk : GeckoBlocks) (h : r.WFG T s gk) (e : Bytes) (hfe : r.fend = some e)
    (hash : Bool) (n : Nat) (hn : n < (r.encodeG s.version (portOccupancy s) gk).length) :
    ∃ err, readSlp T { skipFrames := true, computeHash := hash } ((r.encodeG s.version (portOccupancy s) gk).take n) = .err err :=
  _root_.Peppi.C07_slp_skip_G T r s gk h e hfe hash n hn

/- from `Peppi.Lemmas.ArrowStream` -/
theorem readArrowFrames_ok_iff {χ : Type} (items : List (SItem χ)) (f : χ) :
    readArrowFrames items = .ok f ↔ items = [.chunk f] :=
  _root_.Peppi.readArrowFrames_ok_iff items f

/- from `Peppi.Lemmas.PeppiRead` -/
theorem peppiLoop_ok {μ φ : Type} (T : TextOracle) (trailerOk : Bool) :
    ∀ (es : List (PEntry μ φ)) (acc : PAcc μ) (g : PGame μ φ), peppiLoop T false trailerOk acc es = .ok g →
      (∃ f pre post, es = pre ++ PEntry.framesArrow true [.chunk f] :: post ∧ g.frames = some f) ∨
      ((∀ m items, PEntry.framesArrow m items ∉ es) ∧ trailerOk = true ∧ g.frames = none) :=
  _root_.Peppi.peppiLoop_ok T trailerOk

/- from `Peppi.Lemmas.Example` -/
open Extracted in
theorem example_A : (exReplay (exBlock 3 16 760) (exFrames [-123, -122, -122] 17 32 2 16 1 true) [2, 255, 0, 1, 255, 255]).WFAny T0
    (startOf (exBlock 3 16 760)) none :=
  _root_.Peppi.example_A 

/- from `Peppi.Lemmas.Example` -/
open Extracted in
theorem example_B : (exReplay (exBlock 2 2 418) (exFrames [-123, -122, -122] 16 23 1 0 0 false) [2, 255]).WFAny T0
    (startOf (exBlock 2 2 418)) none :=
  _root_.Peppi.example_B 

/- from `Peppi.Lemmas.Example` -/
open Extracted in
theorem example_C : (exReplay (exBlock 1 0 352) (exFrames [-123, -122, -121] 14 12 1 0 0 false) [2]).WFAny T0
    (startOf (exBlock 1 0 352)) none :=
  _root_.Peppi.example_C 

/- from `Peppi.Lemmas.Example` -/
open Extracted in
theorem example_G : (exReplay (exBlock 3 16 760) (exFrames [-123, -122, -122] 17 32 2 16 1 true) [2, 255, 0, 1, 255, 255]).WFAny T0
    (startOf (exBlock 3 16 760)) (some exGecko) :=
  _root_.Peppi.example_G 

/- from `Peppi.Lemmas.Example` -/
open Extracted in
theorem example_A_roundtrip :
    let r := exReplay (exBlock 3 16 760) (exFrames [-123, -122, -122] 17 32 2 16 1 true) [2, 255, 0, 1, 255, 255]
    let s := startOf (exBlock 3 16 760)
    (∃ g, readSlp T0 {} (r.encodeAny s.version (portOccupancy s) none) = .ok g ∧
      writeSlp g = .ok (r.encodeAny s.version (portOccupancy s) none)) ∧
    ∀ n, n < (r.encodeAny s.version (portOccupancy s) none).length →
      ∃ e, readSlp T0 {} ((r.encodeAny s.version (portOccupancy s) none).take n) = .err e :=
  _root_.Peppi.example_A_roundtrip 

/- from `Peppi.SlppCut` -/
theorem slppReadL_cut {μ φ : Type} (C : CodecT μ φ) (T : TextOracle) (g : PGame μ φ) (startBytes : Bytes) (endBytes : Option Bytes)
    (hstart : gameStart T startBytes = .ok g.start)
    (hend : endBytes.map gameEnd = g.fend.map Res.ok)
    (hgecko : ∀ c, g.gecko = some c → c.2 < 2 ^ 32)
    (hs : SizesOK C.toCodec g startBytes endBytes) (skip : Bool) (n : Nat) :
    (∃ m, slppReadL C.toCodec T skip ((slppWrite C.toCodec g startBytes endBytes).take n) = .err m) ∨
    slppReadL C.toCodec T skip ((slppWrite C.toCodec g startBytes endBytes).take n) = .ok (if skip then { g with frames := none } else { g with frames := g.frames.map C.norm }) :=
  _root_.Peppi.slppReadL_cut C T g startBytes endBytes hstart hend hgecko hs skip n

/- from `Peppi.SlppCut` -/
theorem slppReadL_written {μ φ : Type} (C : CodecT μ φ) (T : TextOracle) (g : PGame μ φ) (startBytes : Bytes) (endBytes : Option Bytes)
    (hstart : gameStart T startBytes = .ok g.start)
    (hend : endBytes.map gameEnd = g.fend.map Res.ok)
    (hgecko : ∀ c, g.gecko = some c → c.2 < 2 ^ 32)
    (hs : SizesOK C.toCodec g startBytes endBytes) (skip : Bool) :
    slppReadL C.toCodec T skip (slppWrite C.toCodec g startBytes endBytes) = .ok (if skip then { g with frames := none } else { g with frames := g.frames.map C.norm }) :=
  _root_.Peppi.slppReadL_written C T g startBytes endBytes hstart hend hgecko hs skip

/- from `Peppi.SlppCut` -/
theorem peppiLoop_cut {μ φ : Type} (C : Codec μ φ) (T : TextOracle) (skip : Bool) :
    ∀ (es : List (Bytes × Bytes)), (∀ e ∈ es, PrefOK C T skip e) → ∀ (n : Nat) (acc : PAcc μ),
      (∃ m, peppiLoop T skip (cutItems es n).2 acc ((cutItems es n).1.map (classifyT C)) = .err m) ∨
      peppiLoop T skip (cutItems es n).2 acc ((cutItems es n).1.map (classifyT C)) = peppiLoop T skip true acc (es.map (classify C)) :=
  _root_.Peppi.peppiLoop_cut C T skip

/- from `Peppi.TarCut` -/
theorem tarScan_cut (es : List (Bytes × Bytes)) (hes : ∀ e ∈ es, EntryOK e) (fuel : Nat) (hf : es.length < fuel) (n : Nat) :
    tarScan fuel ((tarArchive es).take n) = cutItems es n :=
  _root_.Peppi.tarScan_cut es hes fuel hf n

/- from `Peppi.SlppCutExample` -/
theorem exPGame_cut (skip : Bool) (n : Nat) :
    (∃ m, slppReadL toyCodecT.toCodec T0 skip ((slppWrite toyCodecT.toCodec exPGame (exBlock 3 17 760) none).take n) = .err m) ∨
    slppReadL toyCodecT.toCodec T0 skip ((slppWrite toyCodecT.toCodec exPGame (exBlock 3 17 760) none).take n) =
      .ok (if skip then { exPGame with frames := none } else { exPGame with frames := exPGame.frames.map toyCodecT.norm }) :=
  _root_.Peppi.exPGame_cut skip n

/- from `Peppi.SlppCut` -/
theorem slppReadL_cut_json {φ : Type} (C : CodecT KVs φ) (T : TextOracle) (g : PGame KVs φ) (startBytes : Bytes) (endBytes : Option Bytes)
    (hstart : gameStart T startBytes = .ok g.start)
    (hend : endBytes.map gameEnd = g.fend.map Res.ok)
    (hgecko : ∀ c, g.gecko = some c → c.2 < 2 ^ 32)
    (hs : SizesOK C.withJson.toCodec g startBytes endBytes) (skip : Bool) (n : Nat) :
    (∃ m, slppReadL C.withJson.toCodec T skip ((slppWrite C.withJson.toCodec g startBytes endBytes).take n) = .err m) ∨
    slppReadL C.withJson.toCodec T skip ((slppWrite C.withJson.toCodec g startBytes endBytes).take n) =
      .ok (if skip then { g with frames := none } else { g with frames := g.frames.map C.norm }) :=
  _root_.Peppi.slppReadL_cut_json C T g startBytes endBytes hstart hend hgecko hs skip n

/- from `Peppi.SlppCut` -/
theorem slppReadL_noPanic {μ φ : Type} (C : CodecT μ φ) (T : TextOracle) (skip : Bool) (bs : Bytes) (s : String) :
    slppReadL C.toCodec T skip bs ≠ .panic s :=
  _root_.Peppi.slppReadL_noPanic C T skip bs s

/- from `Peppi.Local` -/
open Extracted in
theorem local_parseStart (T : TextOracle) : Rd.Local (parseStart T) :=
  _root_.Peppi.local_parseStart T

/- from `Peppi.Local` -/
open Extracted in
theorem local_parseEvent (ps : ParseState) : Rd.Local (parseEvent ps) :=
  _root_.Peppi.local_parseEvent ps

/- from `Peppi.Lemmas.Trunc` -/
open Extracted in
theorem local_parseMetadata (utf8 st) : Rd.Local (parseMetadata utf8 st) :=
  _root_.Peppi.local_parseMetadata utf8 st

end Peppi.Props.C07
