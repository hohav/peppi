/- Property C04 — Frame rows, character presence and item grouping mirror the event history

   Statements of the machine-checked theorems this property's check relies on.  Each statement is
   spelled out here and proved from the lemma of the same name under `Peppi/` (generated once by
   `bin/mkprops.py`, then kept as source).  What is proved and what is partial: DESIGN.md §4. -/
import Peppi.Lemmas.Canon
import Peppi.Lemmas.FrameStep
import Peppi.Lemmas.FrameStepB
import Peppi.Lemmas.FrameStepC
import Peppi.Lemmas.PortMap
import Peppi.PremisesCore
import Peppi.Lemmas.Example
import Peppi.Lemmas.Lengths
import Peppi.Lemmas.Flat
import Peppi.Lemmas.Wrapped
set_option linter.unusedVariables false
namespace Peppi.Props.C04

/- from `Peppi.Lemmas.Canon` -/
open Extracted in
theorem C04_any (T : TextOracle) (r : Replay) (s : Start) (gk : Option GeckoBlocks) (h : r.WFAny T s gk) :
    ∃ ge : Option End, r.fend.map gameEnd = ge.map Res.ok ∧
      readP T {} (r.encodeAny s.version (portOccupancy s) gk) = .ok (r.gameAny s ge gk, []) :=
  _root_.Peppi.C04_any T r s gk h

/- from `Peppi.Lemmas.Canon` -/
open Extracted in
theorem readP_encode_A (T : TextOracle) (r : Replay) (s : Start) (h : r.WF T s) :
    ∃ ge : Option End, r.fend.map gameEnd = ge.map Res.ok ∧
      readP T {} (r.encode s.version (portOccupancy s)) = .ok (r.game s ge, []) :=
  _root_.Peppi.readP_encode_A T r s h

/- from `Peppi.Lemmas.Canon` -/
open Extracted in
theorem readP_encode_B (T : TextOracle) (r : Replay) (s : Start) (h : r.WFB T s) :
    ∃ ge : Option End, r.fend.map gameEnd = ge.map Res.ok ∧
      readP T {} (r.encodeB s.version (portOccupancy s)) = .ok (r.game s ge, []) :=
  _root_.Peppi.readP_encode_B T r s h

/- from `Peppi.Lemmas.Canon` -/
open Extracted in
theorem readP_encode_C (T : TextOracle) (r : Replay) (s : Start) (h : r.WFC T s) :
    ∃ ge : Option End, r.fend.map gameEnd = ge.map Res.ok ∧
      readP T {} (r.encodeC s.version (portOccupancy s)) = .ok (r.game s ge, []) :=
  _root_.Peppi.readP_encode_C T r s h

/- from `Peppi.Lemmas.Canon` -/
open Extracted in
theorem readP_encode_G (T : TextOracle) (r : Replay) (s : Start) (gk : GeckoBlocks) (h : r.WFG T s gk) :
    ∃ ge : Option End, r.fend.map gameEnd = ge.map Res.ok ∧
      readP T {} (r.encodeG s.version (portOccupancy s) gk) = .ok (r.gameG s ge gk, []) :=
  _root_.Peppi.readP_encode_G T r s gk h

/- from `Peppi.Lemmas.Canon` -/
open Extracted in
theorem read_encode_A (T : TextOracle) (r : Replay) (s : Start) (h : r.WF T s) :
    ∃ ge : Option End, r.fend.map gameEnd = ge.map Res.ok ∧
      readSlp T {} (r.encode s.version (portOccupancy s)) = .ok (r.game s ge) :=
  _root_.Peppi.read_encode_A T r s h

/- from `Peppi.Lemmas.FrameStep` -/
open Extracted in
theorem frames_A (v : Ver) (shape : List PortOccupancy) (h0 h : List FrameOcc) (st : PState)
    (hv : st.start.version = v) (h30 : v.gte 3 0 = true) (h22 : v.gte 2 2 = true)
    (hfr : st.frames = expFrames v shape h0)
    (hmap : PortMapOK st.portIdx shape) (hports : ∀ p ∈ shape, p.port < 256)
    (hok : ∀ o ∈ h, o.OK v (nSlots shape)) :
    runEvents st (h.flatMap (frameEventsA v shape)) = .ok { st with frames := expFrames v shape (h0 ++ h) } :=
  _root_.Peppi.frames_A v shape h0 h st hv h30 h22 hfr hmap hports hok

/- from `Peppi.Lemmas.FrameStepB` -/
open Extracted in
theorem frames_B (v : Ver) (shape : List PortOccupancy) (h30 : v.gte 3 0 = false) (h22 : v.gte 2 2 = true)
    (hports : ∀ p ∈ shape, p.port < 256) :
    ∀ (h h0 : List FrameOcc) (st : PState), st.start.version = v → OpenInv v shape h0 st.frames → PortMapOK st.portIdx shape →
      (∀ o ∈ h, o.OK v (nSlots shape)) →
      ∃ st', runEvents st (h.flatMap (frameEventsB v shape)) = .ok st' ∧ st'.ctx = st.ctx ∧ st'.fend = st.fend ∧ st'.gecko = st.gecko ∧
        st'.metadata = st.metadata ∧ st'.doubleGameEnd = st.doubleGameEnd ∧ OpenInv v shape (h0 ++ h) st'.frames :=
  _root_.Peppi.frames_B v shape h30 h22 hports

/- from `Peppi.Lemmas.FrameStepC` -/
open Extracted in
theorem frames_C (v : Ver) (shape : List PortOccupancy) (h30 : v.gte 3 0 = false) (h22 : v.gte 2 2 = false)
    (hports : ∀ p ∈ shape, p.port < 256) :
    ∀ (h h0 : List FrameOcc) (st : PState), st.start.version = v → OpenInv v shape h0 st.frames → PortMapOK st.portIdx shape →
      (∀ o ∈ h, o.OK v (nSlots shape)) →
      (∀ pre o post, h = pre ++ o :: post →
        (((h0 ++ pre).map (·.id)).getLast?).getD (FIRST_INDEX - 1) + 1 = o.id ∧ presentFrom 0 o.chars ≠ []) →
      ∃ st', runEvents st (h.flatMap (frameEventsC v shape)) = .ok st' ∧ st'.ctx = st.ctx ∧ st'.fend = st.fend ∧ st'.gecko = st.gecko ∧
        st'.metadata = st.metadata ∧ st'.doubleGameEnd = st.doubleGameEnd ∧ OpenInv v shape (h0 ++ h) st'.frames :=
  _root_.Peppi.frames_C v shape h30 h22 hports

/- from `Peppi.Lemmas.PortMap` -/
open Extracted in
theorem portMap_of_gameStart (T : TextOracle) (b : Bytes) (s : Start) (h : gameStart T b = .ok s) :
    PortMapOK (portIdxOf (portOccupancy s)) (portOccupancy s) ∧ ∀ p ∈ portOccupancy s, p.port < 256 :=
  _root_.Peppi.portMap_of_gameStart T b s h

/- from `Peppi.PremisesCore` -/
open Extracted in
theorem core_End : structCoreOK true true End.views = true :=
  _root_.Peppi.core_End 

/- from `Peppi.PremisesCore` -/
open Extracted in
theorem core_Item : structCoreOK false true Item.views = true :=
  _root_.Peppi.core_Item 

/- from `Peppi.PremisesCore` -/
open Extracted in
theorem core_ItemMisc : structCoreOK false false ItemMisc.views = true :=
  _root_.Peppi.core_ItemMisc 

/- from `Peppi.PremisesCore` -/
open Extracted in
theorem core_Position : structCoreOK false true Position.views = true :=
  _root_.Peppi.core_Position 

/- from `Peppi.PremisesCore` -/
open Extracted in
theorem core_Post : structCoreOK false true Post.views = true :=
  _root_.Peppi.core_Post 

/- from `Peppi.PremisesCore` -/
open Extracted in
theorem core_Pre : structCoreOK false true Pre.views = true :=
  _root_.Peppi.core_Pre 

/- from `Peppi.PremisesCore` -/
open Extracted in
theorem core_Start : structCoreOK false true Start.views = true :=
  _root_.Peppi.core_Start 

/- from `Peppi.PremisesCore` -/
open Extracted in
theorem core_StateFlags : structCoreOK false false StateFlags.views = true :=
  _root_.Peppi.core_StateFlags 

/- from `Peppi.PremisesCore` -/
open Extracted in
theorem core_TriggersPhysical : structCoreOK false true TriggersPhysical.views = true :=
  _root_.Peppi.core_TriggersPhysical 

/- from `Peppi.PremisesCore` -/
open Extracted in
theorem core_Velocities : structCoreOK false true Velocities.views = true :=
  _root_.Peppi.core_Velocities 

/- from `Peppi.PremisesCore` -/
open Extracted in
theorem core_Velocity : structCoreOK false true Velocity.views = true :=
  _root_.Peppi.core_Velocity 

/- from `Peppi.Lemmas.Example` -/
open Extracted in
theorem example_A : (exReplay (exBlock 3 16 760) (exFrames [-123, -122, -122] 17 32 2 16 1 true) [2, 255, 0, 1, 255, 255]).WFAny T0
    (startOf (exBlock 3 16 760)) none :=
  _root_.Peppi.example_A 

/- from `Peppi.Lemmas.Example` -/
open Extracted in
theorem example_B : (exReplay (exBlock 2 2 418) (exFrames [-123, -122, -122] 16 23 1 0 0 false) [2, 255]).WFAny T0
    (startOf (exBlock 2 2 418)) none :=
  _root_.Peppi.example_B 

/- from `Peppi.Lemmas.Example` -/
open Extracted in
theorem example_C : (exReplay (exBlock 1 0 352) (exFrames [-123, -122, -121] 14 12 1 0 0 false) [2]).WFAny T0
    (startOf (exBlock 1 0 352)) none :=
  _root_.Peppi.example_C 

/- from `Peppi.Lemmas.Example` -/
open Extracted in
theorem example_G : (exReplay (exBlock 3 16 760) (exFrames [-123, -122, -122] 17 32 2 16 1 true) [2, 255, 0, 1, 255, 255]).WFAny T0
    (startOf (exBlock 3 16 760)) (some exGecko) :=
  _root_.Peppi.example_G 

/- from `Peppi.Lemmas.Example` -/
open Extracted in
theorem example_A_roundtrip :
    let r := exReplay (exBlock 3 16 760) (exFrames [-123, -122, -122] 17 32 2 16 1 true) [2, 255, 0, 1, 255, 255]
    let s := startOf (exBlock 3 16 760)
    (∃ g, readSlp T0 {} (r.encodeAny s.version (portOccupancy s) none) = .ok g ∧
      writeSlp g = .ok (r.encodeAny s.version (portOccupancy s) none)) ∧
    ∀ n, n < (r.encodeAny s.version (portOccupancy s) none).length →
      ∃ e, readSlp T0 {} ((r.encodeAny s.version (portOccupancy s) none).take n) = .err e :=
  _root_.Peppi.example_A_roundtrip 

/- from `Peppi.Lemmas.Lengths` -/
open Extracted in
theorem expFrames_lengths (v : Ver) (shape : List PortOccupancy) (h : List FrameOcc) :
    let F := expFrames v shape h
    F.id.length = h.length ∧
    (∀ sc, F.start = some sc → sc.length = h.length) ∧
    (∀ ec, F.fend = some ec → ec.length = h.length) ∧
    (∀ o, F.itemOff = some o → o.length = h.length + 1) ∧
    (∀ it, F.item = some it → it.length = (h.flatMap (·.items)).length) ∧
    F.ports.length = shape.length ∧
    (∀ p ∈ F.ports, p.leader.LenIs h.length ∧ ∀ f, p.follower = some f → f.LenIs h.length) :=
  _root_.Peppi.expFrames_lengths v shape h

/- from `Peppi.Lemmas.Lengths` -/
open Extracted in
theorem C04_lengths (T : TextOracle) (r : Replay) (s : Start) (gk : Option GeckoBlocks) (h : r.WFAny T s gk) :
    ∃ g rest, readP T {} (r.encodeAny s.version (portOccupancy s) gk) = .ok (g, rest) ∧
      g.frames.id.length = r.frames.length ∧ g.frames.ports.length = (portOccupancy s).length ∧
      (∀ p ∈ g.frames.ports, p.leader.LenIs r.frames.length ∧ ∀ f, p.follower = some f → f.LenIs r.frames.length) ∧
      (∀ sc, g.frames.start = some sc → sc.length = r.frames.length) ∧ (∀ ec, g.frames.fend = some ec → ec.length = r.frames.length) ∧
      (∀ o, g.frames.itemOff = some o → o.length = r.frames.length + 1) :=
  _root_.Peppi.C04_lengths T r s gk h

/- from `Peppi.Lemmas.Flat` -/
open Extracted in
theorem rebuild_mem : ∀ (shape : List PortOccupancy) (slots : List DCols), slots.length = nSlots shape →
    ∀ p ∈ rebuild shape slots, p.leader ∈ slots ∧ ∀ f, p.follower = some f → f ∈ slots :=
  _root_.Peppi.rebuild_mem 

/- from `Peppi.Lemmas.Wrapped` -/
open Extracted in
theorem parseEvent_wrapped (ps : ParseState) (c : Nat) (p pad rest : Bytes) (st' : PState)
    (hc : isFrameEv c = true) (h512 : (p ++ pad).length = 512)
    (hsz : sizeOfEv ps.st.sizes EV_SPLITTER = some 516) (hraw : ps.st.splitRaw = [])
    (hact : ps.st.splitActual + p.length < 2 ^ 32)
    (hplain : handleEvent { ps.st with splitActual := ps.st.splitActual + p.length } c p = .ok st') :
    parseEvent ps (encEvent (EV_SPLITTER, splitPayloadC (p ++ pad) p.length true c) ++ rest) =
      .ok ((c, { st := st', bytesRead := ps.bytesRead + 516 + 1 }), rest) :=
  _root_.Peppi.parseEvent_wrapped ps c p pad rest st' hc h512 hsz hraw hact hplain

end Peppi.Props.C04
