/- Property C08 — Unknown events and longer payloads from newer versions never disturb known data

   Statements of the machine-checked theorems this property's check relies on.  Each statement is
   spelled out here and proved from the lemma of the same name under `Peppi/` (generated once by
   `bin/mkprops.py`, then kept as source).  What is proved and what is partial: DESIGN.md §4. -/
import Peppi.Lemmas.C08
import Peppi.Lemmas.Canon
import Peppi.Lemmas.C05Long
import Peppi.Lemmas.GenFile
import Peppi.Lemmas.GenInst
import Peppi.Lemmas.GenCor
import Peppi.Lemmas.GenExample
import Peppi.Lemmas.Longer
import Peppi.Lemmas.GeckoU
import Peppi.Lemmas.Wrapped
set_option linter.unusedVariables false
namespace Peppi.Props.C08

/- from `Peppi.Lemmas.C08` -/
open Extracted in
theorem handle_unknown (st : PState) (code : Nat) (buf : Bytes) (h : isKnown code = false) :
    handleEvent st code buf = .ok st :=
  _root_.Peppi.handle_unknown st code buf h

/- from `Peppi.Lemmas.C08` -/
open Extracted in
theorem runEvents_erase_unknown : ∀ (es : List (Nat × Bytes)) (st : PState),
    runEvents st es = runEvents st (es.filter fun e => isKnown e.1) :=
  _root_.Peppi.runEvents_erase_unknown 

/- from `Peppi.Lemmas.Canon` -/
open Extracted in
theorem readP_encode_U (T : TextOracle) (r : Replay) (s : Start) (u : Unknowns) (h : r.WFU T s u) :
    ∃ ge : Option End, r.fend.map gameEnd = ge.map Res.ok ∧
      readP T {} (r.encodeU s.version u) = .ok (r.game s ge, []) :=
  _root_.Peppi.readP_encode_U T r s u h

/- from `Peppi.Lemmas.Canon` -/
open Extracted in
theorem C08_unknown_A (T : TextOracle) (r : Replay) (s : Start) (u : Unknowns) (h : r.WFU T s u) :
    readSlp T { skipFrames := false, computeHash := false } (r.encodeU s.version u) =
      readSlp T { skipFrames := false, computeHash := false } (r.encode s.version (portOccupancy s)) :=
  _root_.Peppi.C08_unknown_A T r s u h

/- from `Peppi.Lemmas.C08` -/
open Extracted in
theorem rowOrEof_extra (v : Ver) (L : List Fld) (bs extra : Bytes) (row : Row) (h : rowOrEof v L bs = .ok row) :
    rowOrEof v L (bs ++ extra) = .ok row :=
  _root_.Peppi.rowOrEof_extra v L bs extra row h

/- from `Peppi.Lemmas.C05Long` -/
theorem C05_start_long (T : TextOracle) (b : Bytes) (hL : 760 ≤ b.length) :
    gameStart T b = match specStart 760 T b b with | .ok s => .ok { s with bytes := b } | .err e => .err e | .panic p => .panic p :=
  _root_.Peppi.C05_start_long T b hL

/- from `Peppi.Lemmas.C05Long` -/
theorem C05_end_long (b : Bytes) (hL : 6 ≤ b.length) :
    gameEnd b = match specEnd 6 b b with | .ok e => .ok { e with bytes := b } | .err e => .err e | .panic p => .panic p :=
  _root_.Peppi.C05_end_long b hL

/- from `Peppi.Lemmas.GenFile` -/
open Extracted in
theorem readP_gen (T : TextOracle) (f : GFile) (s : Start) (psF : ParseState) (h : f.WF T s psF) :
    ∃ ge : Option End, f.fend.map gameEnd = ge.map Res.ok ∧
      readP T {} f.encode =
        .ok (gameOf ({ psF.st with fend := ge } : PState).closed f.metadata (dgeOf s.version f.extra none), []) :=
  _root_.Peppi.readP_gen T f s psF h

/- from `Peppi.Lemmas.GenInst` -/
open Extracted in
theorem readP_irregular (T : TextOracle) (r : Replay) (s : Start) (gk : Option GeckoBlocks) (i : Irr) (h : i.OK T r s gk) :
    ∃ ge : Option End, r.fend.map gameEnd = ge.map Res.ok ∧
      readP T {} (r.fileIrr s gk i).encode = .ok (r.gameAny s ge gk, []) :=
  _root_.Peppi.readP_irregular T r s gk i h

/- from `Peppi.Lemmas.GenCor` -/
open Extracted in
theorem C08_any (T : TextOracle) (r : Replay) (s : Start) (gk : Option GeckoBlocks) (i : Irr) (h : i.OK T r s gk) :
    readSlp T { skipFrames := false, computeHash := false } (r.fileIrr s gk i).encode =
      readSlp T { skipFrames := false, computeHash := false } (r.encodeAny s.version (portOccupancy s) gk) :=
  _root_.Peppi.C08_any T r s gk i h

/- from `Peppi.Lemmas.GenExample` -/
open Extracted in
theorem exampleIrr_A :
    (exIrr (startOf (exBlock 3 16 760)).version 760 6 none (portOccupancy (startOf (exBlock 3 16 760)))
      (exFrames [-123, -122, -122] 17 32 2 16 1 true) []).OK T0
      (exReplay (exBlock 3 16 760) (exFrames [-123, -122, -122] 17 32 2 16 1 true) [2, 255, 0, 1, 255, 255]) (startOf (exBlock 3 16 760)) none :=
  _root_.Peppi.exampleIrr_A 

/- from `Peppi.Lemmas.GenExample` -/
open Extracted in
theorem exampleIrr_B :
    (exIrr (startOf (exBlock 2 2 418)).version 418 2 none (portOccupancy (startOf (exBlock 2 2 418)))
      (exFrames [-123, -122, -122] 16 23 1 0 0 false) []).OK T0
      (exReplay (exBlock 2 2 418) (exFrames [-123, -122, -122] 16 23 1 0 0 false) [2, 255]) (startOf (exBlock 2 2 418)) none :=
  _root_.Peppi.exampleIrr_B 

/- from `Peppi.Lemmas.GenExample` -/
open Extracted in
theorem exampleIrr_C :
    (exIrr (startOf (exBlock 1 0 352)).version 352 1 none (portOccupancy (startOf (exBlock 1 0 352)))
      (exFrames [-123, -122, -121] 14 12 1 0 0 false) []).OK T0
      (exReplay (exBlock 1 0 352) (exFrames [-123, -122, -121] 14 12 1 0 0 false) [2]) (startOf (exBlock 1 0 352)) none :=
  _root_.Peppi.exampleIrr_C 

/- from `Peppi.Lemmas.GenExample` -/
open Extracted in
theorem exampleIrr_G :
    (exIrr (startOf (exBlock 3 16 760)).version 760 6 (some exGecko) (portOccupancy (startOf (exBlock 3 16 760)))
      (exFrames [-123, -122, -122] 17 32 2 16 1 true) []).OK T0
      (exReplay (exBlock 3 16 760) (exFrames [-123, -122, -122] 17 32 2 16 1 true) [2, 255, 0, 1, 255, 255]) (startOf (exBlock 3 16 760)) (some exGecko) :=
  _root_.Peppi.exampleIrr_G 

/- from `Peppi.Lemmas.Longer` -/
open Extracted in
theorem handleEvent_extra (st st' : PState) (code : Nat) (buf x : Bytes) (hc : isFrameEv code = true)
    (h : handleEvent st code buf = .ok st') : handleEvent st code (buf ++ x) = .ok st' :=
  _root_.Peppi.handleEvent_extra st st' code buf x hc h

/- from `Peppi.Lemmas.Longer` -/
open Extracted in
theorem runEvents_longer {es' es : List (Nat × Bytes)} (hl : Longer es' es) : ∀ (st st' : PState),
    runEvents st es = .ok st' → runEvents st es' = .ok st' :=
  _root_.Peppi.runEvents_longer hl

/- from `Peppi.Lemmas.GenExample` -/
open Extracted in
theorem exampleIrr_N :
    ({ table := padTable (canonTableAny (startOf (exBlock 3 17 760)).version 760 6 none) ++ [(0x50, 3)],
       mixed := [(0x50, [1, 2, 3])] ++ padEvents (canonEventsAny (startOf (exBlock 3 17 760)).version (portOccupancy (startOf (exBlock 3 17 760)))
         (exFrames [-123, -122, -122] 17 32 2 16 1 true)),
       junk := [] } : Irr).OK T0
      (exReplay (exBlock 3 17 760) (exFrames [-123, -122, -122] 17 32 2 16 1 true) [2, 255, 0, 1, 255, 255]) (startOf (exBlock 3 17 760)) none :=
  _root_.Peppi.exampleIrr_N 

/- from `Peppi.Lemmas.GeckoU` -/
open Extracted in
theorem midRun_geckoU (t : List (Nat × Nat)) (sl : Nat) (s : Start) (g : GeckoBlocks) (us : List (List (Nat × Bytes)))
    (hfull : ∀ b ∈ g.init, FullBlock b) (hlast : LastBlock g.last) (htot : g.total < 2 ^ 32)
    (hsz : sizeOfEv t.reverse EV_SPLITTER = some 516)
    (hus : ∀ u ∈ us, ∀ e ∈ u, isKnown e.1 = false ∧ e.1 < 256 ∧ sizeOfEv t.reverse e.1 = some e.2.length) :
    MidRun (ps0T t sl s) (g.encU us)
      { st := { (ps0T t sl s).st with splitRaw := [], splitActual := g.total, gecko := some (Gecko.mk (catData g.all) g.total) },
        bytesRead := (ps0T t sl s).bytesRead + (g.encU us).length } :=
  _root_.Peppi.midRun_geckoU t sl s g us hfull hlast htot hsz hus

/- from `Peppi.Lemmas.Wrapped` -/
open Extracted in
theorem parseEvent_wrapped_unknown (ps : ParseState) (c : Nat) (data rest : Bytes) (actual : Nat)
    (hc : c < 256) (hunk : isKnown c = false) (hd : data.length = 512) (ha : actual ≤ 512)
    (hsz : sizeOfEv ps.st.sizes EV_SPLITTER = some 516) (hact : ps.st.splitActual + actual < 2 ^ 32) :
    parseEvent ps (encEvent (EV_SPLITTER, splitPayloadC data actual true c) ++ rest) =
      .ok ((c, { st := { ps.st with splitRaw := [], splitActual := ps.st.splitActual + actual }, bytesRead := ps.bytesRead + 516 + 1 }), rest) :=
  _root_.Peppi.parseEvent_wrapped_unknown ps c data rest actual hc hunk hd ha hsz hact

/- from `Peppi.Lemmas.Wrapped` -/
open Extracted in
theorem parseEvent_split_any (ps : ParseState) (c : Nat) (data rest : Bytes) (actual : Nat)
    (hd : data.length = 512) (ha : actual ≤ 512)
    (hsz : sizeOfEv ps.st.sizes EV_SPLITTER = some 516) (hact : ps.st.splitActual + actual < 2 ^ 32) :
    ∃ st', parseEvent ps (encEvent (EV_SPLITTER, splitPayloadC data actual false c) ++ rest) =
      .ok ((EV_SPLITTER, { st := st', bytesRead := ps.bytesRead + 516 + 1 }), rest) ∧
      st' = { ps.st with splitRaw := ps.st.splitRaw ++ data, splitActual := ps.st.splitActual + actual } :=
  _root_.Peppi.parseEvent_split_any ps c data rest actual hd ha hsz hact

end Peppi.Props.C08
