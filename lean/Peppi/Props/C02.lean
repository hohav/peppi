/- Property C02 — .slp -> .slpp -> .slp is lossless under every compression option

   Statements of the machine-checked theorems this property's check relies on.  Each statement is
   spelled out here and proved from the lemma of the same name under `Peppi/` (generated once by
   `bin/mkprops.py`, then kept as source).  What is proved and what is partial: DESIGN.md §4. -/
import Peppi.Lemmas.Unified
import Peppi.Lemmas.PeppiRound
import Peppi.Lemmas.ArrowFrame
import Peppi.PremisesCore
import Peppi.PremisesArrow
import Peppi.SlppBytes
import Peppi.Tar
import Peppi.PeppiJson
import Peppi.C02Bytes
import Peppi.C02Example
set_option linter.unusedVariables false
namespace Peppi.Props.C02

/- from `Peppi.Lemmas.Unified` -/
open Extracted in
theorem C01_any (T : TextOracle) (r : Replay) (s : Start) (gk : Option GeckoBlocks) (h : r.WFAny T s gk)
    (hmax : assertMaxVersion s.version = .ok ()) :
    ∃ g, readSlp T {} (r.encodeAny s.version (portOccupancy s) gk) = .ok g ∧
      writeSlp g = .ok (r.encodeAny s.version (portOccupancy s) gk) :=
  _root_.Peppi.C01_any T r s gk h hmax

/- from `Peppi.Lemmas.PeppiRound` -/
theorem peppiRead_written {μ φ : Type} (T : TextOracle) (g : PGame μ φ) (startBytes : Bytes) (endBytes : Option Bytes) (trailerOk : Bool)
    (hstart : gameStart T startBytes = .ok g.start)
    (hend : endBytes.map gameEnd = g.fend.map Res.ok)
    (hgecko : ∀ c, g.gecko = some c → c.2 < 2 ^ 32)
    (hframes : g.frames = none → trailerOk = true) :
    peppiRead T false trailerOk (writtenEntries g startBytes endBytes) = .ok g :=
  _root_.Peppi.peppiRead_written T g startBytes endBytes trailerOk hstart hend hgecko hframes

/- from `Peppi.Lemmas.ArrowFrame` -/
theorem fromF_norm_intoF (w : Widths) (f : FCols) (h : FrameRowsOK w f) : fromF (normF (intoF w f)) = f :=
  _root_.Peppi.fromF_norm_intoF w f h

/- from `Peppi.Lemmas.ArrowFrame` -/
theorem fromF'_norm_intoF' (w : Widths) (f : FCols) (h : FrameRowsOK w f) (hw : w.fend = 0)
    (ec : SCols) (hfe : f.fend = some ec) (hpresent : ec = List.replicate f.id.length (some [])) :
    fromF' true (normF (intoF' w f)) = f :=
  _root_.Peppi.fromF'_norm_intoF' w f h hw ec hfe hpresent

/- from `Peppi.Lemmas.PeppiRound` -/
theorem le_roundtrip (n : Nat) (h : n < 2 ^ 32) (rest : Bytes) :
    fromBE (((leU32' n ++ rest).take 4).reverse) = n ∧ (leU32' n ++ rest).drop 4 = rest ∧ ¬ (leU32' n ++ rest).length < 4 :=
  _root_.Peppi.le_roundtrip n h rest

/- from `Peppi.Lemmas.Unified` -/
open Extracted in
theorem C01_A (T : TextOracle) (r : Replay) (s : Start) (h : r.WF T s) (hmax : assertMaxVersion s.version = .ok ()) :
    ∃ g, readSlp T {} (r.encode s.version (portOccupancy s)) = .ok g ∧ writeSlp g = .ok (r.encode s.version (portOccupancy s)) :=
  _root_.Peppi.C01_A T r s h hmax

/- from `Peppi.Lemmas.Unified` -/
open Extracted in
theorem C01_B (T : TextOracle) (r : Replay) (s : Start) (h : r.WFB T s) (hmax : assertMaxVersion s.version = .ok ()) :
    ∃ g, readSlp T {} (r.encodeB s.version (portOccupancy s)) = .ok g ∧ writeSlp g = .ok (r.encodeB s.version (portOccupancy s)) :=
  _root_.Peppi.C01_B T r s h hmax

/- from `Peppi.Lemmas.Unified` -/
open Extracted in
theorem C01_C (T : TextOracle) (r : Replay) (s : Start) (h : r.WFC T s) (hmax : assertMaxVersion s.version = .ok ()) :
    ∃ g, readSlp T {} (r.encodeC s.version (portOccupancy s)) = .ok g ∧ writeSlp g = .ok (r.encodeC s.version (portOccupancy s)) :=
  _root_.Peppi.C01_C T r s h hmax

/- from `Peppi.Lemmas.Unified` -/
open Extracted in
theorem C01_G (T : TextOracle) (r : Replay) (s : Start) (gk : GeckoBlocks) (h : r.WFG T s gk) (hmax : assertMaxVersion s.version = .ok ()) :
    ∃ g, readSlp T {} (r.encodeG s.version (portOccupancy s) gk) = .ok g ∧ writeSlp g = .ok (r.encodeG s.version (portOccupancy s) gk) :=
  _root_.Peppi.C01_G T r s gk h hmax

/- from `Peppi.PremisesCore` -/
open Extracted in
theorem core_End : structCoreOK true true End.views = true :=
  _root_.Peppi.core_End 

/- from `Peppi.PremisesCore` -/
open Extracted in
theorem core_Item : structCoreOK false true Item.views = true :=
  _root_.Peppi.core_Item 

/- from `Peppi.PremisesCore` -/
open Extracted in
theorem core_ItemMisc : structCoreOK false false ItemMisc.views = true :=
  _root_.Peppi.core_ItemMisc 

/- from `Peppi.PremisesCore` -/
open Extracted in
theorem core_Position : structCoreOK false true Position.views = true :=
  _root_.Peppi.core_Position 

/- from `Peppi.PremisesCore` -/
open Extracted in
theorem core_Post : structCoreOK false true Post.views = true :=
  _root_.Peppi.core_Post 

/- from `Peppi.PremisesCore` -/
open Extracted in
theorem core_Pre : structCoreOK false true Pre.views = true :=
  _root_.Peppi.core_Pre 

/- from `Peppi.PremisesCore` -/
open Extracted in
theorem core_Start : structCoreOK false true Start.views = true :=
  _root_.Peppi.core_Start 

/- from `Peppi.PremisesCore` -/
open Extracted in
theorem core_StateFlags : structCoreOK false false StateFlags.views = true :=
  _root_.Peppi.core_StateFlags 

/- from `Peppi.PremisesCore` -/
open Extracted in
theorem core_TriggersPhysical : structCoreOK false true TriggersPhysical.views = true :=
  _root_.Peppi.core_TriggersPhysical 

/- from `Peppi.PremisesCore` -/
open Extracted in
theorem core_Velocities : structCoreOK false true Velocities.views = true :=
  _root_.Peppi.core_Velocities 

/- from `Peppi.PremisesCore` -/
open Extracted in
theorem core_Velocity : structCoreOK false true Velocity.views = true :=
  _root_.Peppi.core_Velocity 

/- from `Peppi.PremisesArrow` -/
open Extracted in
theorem arrow_End : structArrowOK true End.views = true :=
  _root_.Peppi.arrow_End 

/- from `Peppi.PremisesArrow` -/
open Extracted in
theorem arrow_Item : structArrowOK true Item.views = true :=
  _root_.Peppi.arrow_Item 

/- from `Peppi.PremisesArrow` -/
open Extracted in
theorem arrow_ItemMisc : structArrowOK false ItemMisc.views = true :=
  _root_.Peppi.arrow_ItemMisc 

/- from `Peppi.PremisesArrow` -/
open Extracted in
theorem arrow_Position : structArrowOK true Position.views = true :=
  _root_.Peppi.arrow_Position 

/- from `Peppi.PremisesArrow` -/
open Extracted in
theorem arrow_Post : structArrowOK true Post.views = true :=
  _root_.Peppi.arrow_Post 

/- from `Peppi.PremisesArrow` -/
open Extracted in
theorem arrow_Pre : structArrowOK true Pre.views = true :=
  _root_.Peppi.arrow_Pre 

/- from `Peppi.PremisesArrow` -/
open Extracted in
theorem arrow_Start : structArrowOK true Start.views = true :=
  _root_.Peppi.arrow_Start 

/- from `Peppi.PremisesArrow` -/
open Extracted in
theorem arrow_StateFlags : structArrowOK false StateFlags.views = true :=
  _root_.Peppi.arrow_StateFlags 

/- from `Peppi.PremisesArrow` -/
open Extracted in
theorem arrow_TriggersPhysical : structArrowOK true TriggersPhysical.views = true :=
  _root_.Peppi.arrow_TriggersPhysical 

/- from `Peppi.PremisesArrow` -/
open Extracted in
theorem arrow_Velocities : structArrowOK true Velocities.views = true :=
  _root_.Peppi.arrow_Velocities 

/- from `Peppi.PremisesArrow` -/
open Extracted in
theorem arrow_Velocity : structArrowOK true Velocity.views = true :=
  _root_.Peppi.arrow_Velocity 

/- from `Peppi.SlppBytes` -/
theorem slppRead_written {μ φ : Type} (C : Codec μ φ) (T : TextOracle) (g : PGame μ φ) (startBytes : Bytes) (endBytes : Option Bytes)
    (hstart : gameStart T startBytes = .ok g.start)
    (hend : endBytes.map gameEnd = g.fend.map Res.ok)
    (hgecko : ∀ c, g.gecko = some c → c.2 < 2 ^ 32)
    (hs : SizesOK C g startBytes endBytes) (skip : Bool) :
    slppRead C T skip (slppWrite C g startBytes endBytes) =
      .ok (if skip then { g with frames := none } else { g with frames := g.frames.map C.norm }) :=
  _root_.Peppi.slppRead_written C T g startBytes endBytes hstart hend hgecko hs skip

/- from `Peppi.Tar` -/
theorem tarRead_archive (es : List (Bytes × Bytes)) (hes : ∀ e ∈ es, EntryOK e) (fuel : Nat) (hf : es.length < fuel) :
    tarRead fuel (tarArchive es) = .ok (es, true) :=
  _root_.Peppi.tarRead_archive es hes fuel hf

/- from `Peppi.SlppBytes` -/
theorem slppRead_written_json {φ : Type} (C : Codec KVs φ) (T : TextOracle) (g : PGame KVs φ) (startBytes : Bytes) (endBytes : Option Bytes)
    (hstart : gameStart T startBytes = .ok g.start)
    (hend : endBytes.map gameEnd = g.fend.map Res.ok)
    (hgecko : ∀ c, g.gecko = some c → c.2 < 2 ^ 32)
    (hs : SizesOK C.withJsonMeta g startBytes endBytes) (skip : Bool) :
    slppRead C.withJsonMeta T skip (slppWrite C.withJsonMeta g startBytes endBytes) =
      .ok (if skip then { g with frames := none } else { g with frames := g.frames.map C.norm }) :=
  _root_.Peppi.slppRead_written_json C T g startBytes endBytes hstart hend hgecko hs skip

/- from `Peppi.PeppiJson` -/
theorem slppRead_written_json2 {φ : Type} (C : Codec KVs φ) (T : TextOracle) (g : PGame KVs φ) (startBytes : Bytes) (endBytes : Option Bytes)
    (hstart : gameStart T startBytes = .ok g.start)
    (hend : endBytes.map gameEnd = g.fend.map Res.ok)
    (hgecko : ∀ c, g.gecko = some c → c.2 < 2 ^ 32)
    (hs : SizesOK C.withJson g startBytes endBytes) (skip : Bool) :
    slppRead C.withJson T skip (slppWrite C.withJson g startBytes endBytes) = .ok (if skip then { g with frames := none } else { g with frames := g.frames.map C.norm }) :=
  _root_.Peppi.slppRead_written_json2 C T g startBytes endBytes hstart hend hgecko hs skip

/- from `Peppi.PeppiJson` -/
theorem decPeppiJ_enc (h : Option String) (q : Option Bool) : decPeppiJ (encPeppiJ h q) = .ok ⟨true, h, q⟩ :=
  _root_.Peppi.decPeppiJ_enc h q

/- from `Peppi.C02Bytes` -/
open Extracted in
theorem C02_bytes (C : Codec KVs AFrame) (hnorm : C.norm = normF) (T : TextOracle) (r : Replay) (s : Start) (gk : Option GeckoBlocks)
    (h : r.WFAny T s gk) (hmax : assertMaxVersion s.version = .ok ())
    (hsize : ∀ g, readSlp T {} (r.encodeAny s.version (portOccupancy s) gk) = .ok g →
      SizesOK C (toP g none) g.start.bytes (g.fend.map (·.bytes))) :
    ∃ g p, readSlp T {} (r.encodeAny s.version (portOccupancy s) gk) = .ok g ∧
      slppRead C T false (slppWrite C (toP g none) g.start.bytes (g.fend.map (·.bytes))) = .ok p ∧
      writeSlp (ofP p) = .ok (r.encodeAny s.version (portOccupancy s) gk) :=
  _root_.Peppi.C02_bytes C hnorm T r s gk h hmax hsize

/- from `Peppi.C02Bytes` -/
open Extracted in
theorem import_export (v : Ver) (shape : List PortOccupancy) (h : List FrameOcc) (hok : ∀ o ∈ h, o.OK v (nSlots shape)) :
    fromF' (v.gte 3 0) (normF (intoF' (widthsOf v) (expFrames v shape h))) = expFrames v shape h :=
  _root_.Peppi.import_export v shape h hok

/- from `Peppi.C02Bytes` -/
open Extracted in
theorem expFrames_rowsOK (v : Ver) (shape : List PortOccupancy) (h : List FrameOcc)
    (hok : ∀ o ∈ h, o.OK v (nSlots shape)) : FrameRowsOK (widthsOf v) (expFrames v shape h) :=
  _root_.Peppi.expFrames_rowsOK v shape h hok

/- from `Peppi.C02Example` -/
open Extracted in
theorem C02_bytes_example :
    ∃ g p, readSlp T0 {} (exR.encodeAny exS.version (portOccupancy exS) none) = .ok g ∧
      slppRead exCodecA T0 false (slppWrite exCodecA (toP g none) g.start.bytes (g.fend.map (·.bytes))) = .ok p ∧
      writeSlp (ofP p) = .ok (exR.encodeAny exS.version (portOccupancy exS) none) :=
  _root_.Peppi.C02_bytes_example 

end Peppi.Props.C02
