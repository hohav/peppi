/- Property C01 — Reading a .slp and writing it back reproduces the file byte for byte

   Statements of the machine-checked theorems this property's check relies on.  Each statement is
   spelled out here and proved from the lemma of the same name under `Peppi/` (generated once by
   `bin/mkprops.py`, then kept as source).  What is proved and what is partial: DESIGN.md §4. -/
import Peppi.Lemmas.Unified
import Peppi.Lemmas.WriteAny
import Peppi.Lemmas.PortMap
import Peppi.PremisesCore
import Peppi.Lemmas.Example
set_option linter.unusedVariables false
namespace Peppi.Props.C01

/- from `Peppi.Lemmas.Unified` -/
open Extracted in
theorem C01_any (T : TextOracle) (r : Replay) (s : Start) (gk : Option GeckoBlocks) (h : r.WFAny T s gk)
    (hmax : assertMaxVersion s.version = .ok ()) :
    ∃ g, readSlp T {} (r.encodeAny s.version (portOccupancy s) gk) = .ok g ∧
      writeSlp g = .ok (r.encodeAny s.version (portOccupancy s) gk) :=
  _root_.Peppi.C01_any T r s gk h hmax

/- from `Peppi.Lemmas.Unified` -/
open Extracted in
theorem C01_A (T : TextOracle) (r : Replay) (s : Start) (h : r.WF T s) (hmax : assertMaxVersion s.version = .ok ()) :
    ∃ g, readSlp T {} (r.encode s.version (portOccupancy s)) = .ok g ∧ writeSlp g = .ok (r.encode s.version (portOccupancy s)) :=
  _root_.Peppi.C01_A T r s h hmax

/- from `Peppi.Lemmas.Unified` -/
open Extracted in
theorem C01_B (T : TextOracle) (r : Replay) (s : Start) (h : r.WFB T s) (hmax : assertMaxVersion s.version = .ok ()) :
    ∃ g, readSlp T {} (r.encodeB s.version (portOccupancy s)) = .ok g ∧ writeSlp g = .ok (r.encodeB s.version (portOccupancy s)) :=
  _root_.Peppi.C01_B T r s h hmax

/- from `Peppi.Lemmas.Unified` -/
open Extracted in
theorem C01_C (T : TextOracle) (r : Replay) (s : Start) (h : r.WFC T s) (hmax : assertMaxVersion s.version = .ok ()) :
    ∃ g, readSlp T {} (r.encodeC s.version (portOccupancy s)) = .ok g ∧ writeSlp g = .ok (r.encodeC s.version (portOccupancy s)) :=
  _root_.Peppi.C01_C T r s h hmax

/- from `Peppi.Lemmas.Unified` -/
open Extracted in
theorem C01_G (T : TextOracle) (r : Replay) (s : Start) (gk : GeckoBlocks) (h : r.WFG T s gk) (hmax : assertMaxVersion s.version = .ok ()) :
    ∃ g, readSlp T {} (r.encodeG s.version (portOccupancy s) gk) = .ok g ∧ writeSlp g = .ok (r.encodeG s.version (portOccupancy s) gk) :=
  _root_.Peppi.C01_G T r s gk h hmax

/- from `Peppi.Lemmas.WriteAny` -/
open Extracted in
theorem rawSize_A (T : TextOracle) (r : Replay) (s : Start) (h : r.WF T s) (ge : Option End)
    (hge : r.fend.map gameEnd = ge.map Res.ok) :
    rawSize (canonTable s.version r.startBlock.length (r.endLen s.version)) (r.game s ge) =
      .ok (r.raw s.version (portOccupancy s)).length :=
  _root_.Peppi.rawSize_A T r s h ge hge

/- from `Peppi.Lemmas.WriteAny` -/
open Extracted in
theorem rawSize_B (T : TextOracle) (r : Replay) (s : Start) (h : r.WFB T s) (ge : Option End)
    (hge : r.fend.map gameEnd = ge.map Res.ok) :
    rawSize (canonTableB s.version r.startBlock.length (r.endLen s.version)) (r.game s ge) =
      .ok (r.rawB s.version (portOccupancy s)).length :=
  _root_.Peppi.rawSize_B T r s h ge hge

/- from `Peppi.Lemmas.WriteAny` -/
open Extracted in
theorem rawSize_C (T : TextOracle) (r : Replay) (s : Start) (h : r.WFC T s) (ge : Option End)
    (hge : r.fend.map gameEnd = ge.map Res.ok) :
    rawSize (canonTableC s.version r.startBlock.length (r.endLen s.version)) (r.game s ge) =
      .ok (r.rawC s.version (portOccupancy s)).length :=
  _root_.Peppi.rawSize_C T r s h ge hge

/- from `Peppi.Lemmas.WriteAny` -/
open Extracted in
theorem rawSize_G (T : TextOracle) (r : Replay) (s : Start) (gk : GeckoBlocks) (h : r.WFG T s gk) (ge : Option End)
    (hge : r.fend.map gameEnd = ge.map Res.ok) :
    rawSize (canonTableG s.version r.startBlock.length (r.endLen s.version) gk.total) (r.gameG s ge gk) =
      .ok (r.rawG s.version (portOccupancy s) gk).length :=
  _root_.Peppi.rawSize_G T r s gk h ge hge

/- from `Peppi.Lemmas.PortMap` -/
open Extracted in
theorem portMap_of_gameStart (T : TextOracle) (b : Bytes) (s : Start) (h : gameStart T b = .ok s) :
    PortMapOK (portIdxOf (portOccupancy s)) (portOccupancy s) ∧ ∀ p ∈ portOccupancy s, p.port < 256 :=
  _root_.Peppi.portMap_of_gameStart T b s h

/- from `Peppi.PremisesCore` -/
open Extracted in
theorem core_End : structCoreOK true true End.views = true :=
  _root_.Peppi.core_End 

/- from `Peppi.PremisesCore` -/
open Extracted in
theorem core_Item : structCoreOK false true Item.views = true :=
  _root_.Peppi.core_Item 

/- from `Peppi.PremisesCore` -/
open Extracted in
theorem core_ItemMisc : structCoreOK false false ItemMisc.views = true :=
  _root_.Peppi.core_ItemMisc 

/- from `Peppi.PremisesCore` -/
open Extracted in
theorem core_Position : structCoreOK false true Position.views = true :=
  _root_.Peppi.core_Position 

/- from `Peppi.PremisesCore` -/
open Extracted in
theorem core_Post : structCoreOK false true Post.views = true :=
  _root_.Peppi.core_Post 

/- from `Peppi.PremisesCore` -/
open Extracted in
theorem core_Pre : structCoreOK false true Pre.views = true :=
  _root_.Peppi.core_Pre 

/- from `Peppi.PremisesCore` -/
open Extracted in
theorem core_Start : structCoreOK false true Start.views = true :=
  _root_.Peppi.core_Start 

/- from `Peppi.PremisesCore` -/
open Extracted in
theorem core_StateFlags : structCoreOK false false StateFlags.views = true :=
  _root_.Peppi.core_StateFlags 

/- from `Peppi.PremisesCore` -/
open Extracted in
theorem core_TriggersPhysical : structCoreOK false true TriggersPhysical.views = true :=
  _root_.Peppi.core_TriggersPhysical 

/- from `Peppi.PremisesCore` -/
open Extracted in
theorem core_Velocities : structCoreOK false true Velocities.views = true :=
  _root_.Peppi.core_Velocities 

/- from `Peppi.PremisesCore` -/
open Extracted in
theorem core_Velocity : structCoreOK false true Velocity.views = true :=
  _root_.Peppi.core_Velocity 

/- from `Peppi.Lemmas.Example` -/
open Extracted in
theorem example_A : (exReplay (exBlock 3 16 760) (exFrames [-123, -122, -122] 17 32 2 16 1 true) [2, 255, 0, 1, 255, 255]).WFAny T0
    (startOf (exBlock 3 16 760)) none :=
  _root_.Peppi.example_A 

/- from `Peppi.Lemmas.Example` -/
open Extracted in
theorem example_B : (exReplay (exBlock 2 2 418) (exFrames [-123, -122, -122] 16 23 1 0 0 false) [2, 255]).WFAny T0
    (startOf (exBlock 2 2 418)) none :=
  _root_.Peppi.example_B 

/- from `Peppi.Lemmas.Example` -/
open Extracted in
theorem example_C : (exReplay (exBlock 1 0 352) (exFrames [-123, -122, -121] 14 12 1 0 0 false) [2]).WFAny T0
    (startOf (exBlock 1 0 352)) none :=
  _root_.Peppi.example_C 

/- from `Peppi.Lemmas.Example` -/
open Extracted in
theorem example_G : (exReplay (exBlock 3 16 760) (exFrames [-123, -122, -122] 17 32 2 16 1 true) [2, 255, 0, 1, 255, 255]).WFAny T0
    (startOf (exBlock 3 16 760)) (some exGecko) :=
  _root_.Peppi.example_G 

/- from `Peppi.Lemmas.Example` -/
open Extracted in
theorem example_A_roundtrip :
    let r := exReplay (exBlock 3 16 760) (exFrames [-123, -122, -122] 17 32 2 16 1 true) [2, 255, 0, 1, 255, 255]
    let s := startOf (exBlock 3 16 760)
    (∃ g, readSlp T0 {} (r.encodeAny s.version (portOccupancy s) none) = .ok g ∧
      writeSlp g = .ok (r.encodeAny s.version (portOccupancy s) none)) ∧
    ∀ n, n < (r.encodeAny s.version (portOccupancy s) none).length →
      ∃ e, readSlp T0 {} ((r.encodeAny s.version (portOccupancy s) none).take n) = .err e :=
  _root_.Peppi.example_A_roundtrip 

/- from `Peppi.Lemmas.WriteAny` -/
open Extracted in
theorem write_game_any (T : TextOracle) (r : Replay) (s : Start) (gk : Option GeckoBlocks) (h : r.WFAny T s gk)
    (hmax : assertMaxVersion s.version = .ok ()) (ge : Option End) (hge : r.fend.map gameEnd = ge.map Res.ok) :
    writeSlp (r.gameAny s ge gk) = .ok (r.encodeAny s.version (portOccupancy s) gk) :=
  _root_.Peppi.write_game_any T r s gk h hmax ge hge

end Peppi.Props.C01
