/- Property C18 — .slpp is a tar starting with peppi.json whose entries agree with each other

   Statements of the machine-checked theorems this property's check relies on.  Each statement is
   spelled out here and proved from the lemma of the same name under `Peppi/` (generated once by
   `bin/mkprops.py`, then kept as source).  What is proved and what is partial: DESIGN.md §4. -/
import Peppi.Lemmas.PeppiRead
import Peppi.Lemmas.PeppiRound
import Peppi.Lemmas.C09P
import Peppi.Tar
import Peppi.SlppBytes
import Peppi.TarCut
import Peppi.SlppCut
import Peppi.PeppiJson
import Peppi.SlppConsistent
set_option linter.unusedVariables false
namespace Peppi.Props.C18

/- from `Peppi.Lemmas.PeppiRead` -/
theorem peppiLoop_skip_other {μ φ : Type} (T : TextOracle) (skip trailerOk : Bool) :
    ∀ (es : List (PEntry μ φ)) (acc : PAcc μ),
      peppiLoop T skip trailerOk acc es = peppiLoop T skip trailerOk acc (es.filter fun e => match e with | .other => false | _ => true) :=
  _root_.Peppi.peppiLoop_skip_other T skip trailerOk

/- from `Peppi.Lemmas.PeppiRound` -/
theorem peppiRead_written {μ φ : Type} (T : TextOracle) (g : PGame μ φ) (startBytes : Bytes) (endBytes : Option Bytes) (trailerOk : Bool)
    (hstart : gameStart T startBytes = .ok g.start)
    (hend : endBytes.map gameEnd = g.fend.map Res.ok)
    (hgecko : ∀ c, g.gecko = some c → c.2 < 2 ^ 32)
    (hframes : g.frames = none → trailerOk = true) :
    peppiRead T false trailerOk (writtenEntries g startBytes endBytes) = .ok g :=
  _root_.Peppi.peppiRead_written T g startBytes endBytes trailerOk hstart hend hgecko hframes

/- from `Peppi.Lemmas.C09P` -/
theorem assertCurrentVersion_iff (v : Nat × Nat × Nat) : assertCurrentVersion v = .ok () ↔ 2 ≤ v.1 :=
  _root_.Peppi.assertCurrentVersion_iff v

/- from `Peppi.Tar` -/
theorem tarArchive_starts (name data : Bytes) (es : List (Bytes × Bytes)) :
    (tarArchive ((name, data) :: es)).take name.length = name :=
  _root_.Peppi.tarArchive_starts name data es

/- from `Peppi.Tar` -/
theorem tarRead_archive (es : List (Bytes × Bytes)) (hes : ∀ e ∈ es, EntryOK e) (fuel : Nat) (hf : es.length < fuel) :
    tarRead fuel (tarArchive es) = .ok (es, true) :=
  _root_.Peppi.tarRead_archive es hes fuel hf

/- from `Peppi.Tar` -/
theorem tarEntry_length (e : Bytes × Bytes) (hn : e.1.length ≤ 100) : (tarEntry e).length % 512 = 0 :=
  _root_.Peppi.tarEntry_length e hn

/- from `Peppi.Tar` -/
theorem parseOctal_octal (k n : Nat) (h : n < 8 ^ k) : parseOctal (octal k n) = some n :=
  _root_.Peppi.parseOctal_octal k n h

/- from `Peppi.SlppBytes` -/
theorem slppRead_written {μ φ : Type} (C : Codec μ φ) (T : TextOracle) (g : PGame μ φ) (startBytes : Bytes) (endBytes : Option Bytes)
    (hstart : gameStart T startBytes = .ok g.start)
    (hend : endBytes.map gameEnd = g.fend.map Res.ok)
    (hgecko : ∀ c, g.gecko = some c → c.2 < 2 ^ 32)
    (hs : SizesOK C g startBytes endBytes) (skip : Bool) :
    slppRead C T skip (slppWrite C g startBytes endBytes) =
      .ok (if skip then { g with frames := none } else { g with frames := g.frames.map C.norm }) :=
  _root_.Peppi.slppRead_written C T g startBytes endBytes hstart hend hgecko hs skip

/- from `Peppi.SlppBytes` -/
theorem slppWrite_signature {μ φ : Type} (C : Codec μ φ) (g : PGame μ φ) (startBytes : Bytes) (endBytes : Option Bytes) :
    (slppWrite C g startBytes endBytes).take 10 = N_PEPPI :=
  _root_.Peppi.slppWrite_signature C g startBytes endBytes

/- from `Peppi.Tar` -/
theorem tarArchive_length_ge (es : List (Bytes × Bytes)) (hn : ∀ e ∈ es, e.1.length ≤ 100) :
    512 * es.length + 1024 ≤ (tarArchive es).length :=
  _root_.Peppi.tarArchive_length_ge es hn

/- from `Peppi.TarCut` -/
theorem tarScan_cut (es : List (Bytes × Bytes)) (hes : ∀ e ∈ es, EntryOK e) (fuel : Nat) (hf : es.length < fuel) (n : Nat) :
    tarScan fuel ((tarArchive es).take n) = cutItems es n :=
  _root_.Peppi.tarScan_cut es hes fuel hf n

/- from `Peppi.SlppCut` -/
theorem slppReadL_written {μ φ : Type} (C : CodecT μ φ) (T : TextOracle) (g : PGame μ φ) (startBytes : Bytes) (endBytes : Option Bytes)
    (hstart : gameStart T startBytes = .ok g.start)
    (hend : endBytes.map gameEnd = g.fend.map Res.ok)
    (hgecko : ∀ c, g.gecko = some c → c.2 < 2 ^ 32)
    (hs : SizesOK C.toCodec g startBytes endBytes) (skip : Bool) :
    slppReadL C.toCodec T skip (slppWrite C.toCodec g startBytes endBytes) = .ok (if skip then { g with frames := none } else { g with frames := g.frames.map C.norm }) :=
  _root_.Peppi.slppReadL_written C T g startBytes endBytes hstart hend hgecko hs skip

/- from `Peppi.PeppiJson` -/
theorem decPeppiJ_enc (h : Option String) (q : Option Bool) : decPeppiJ (encPeppiJ h q) = .ok ⟨true, h, q⟩ :=
  _root_.Peppi.decPeppiJ_enc h q

/- from `Peppi.PeppiJson` -/
theorem decPeppiJ_encV (a b c : Nat) (ha : a ≤ 255) (hb : b ≤ 255) (hc : c ≤ 255) (h : Option String) (q : Option Bool) :
    decPeppiJ (encPeppiV a b c h q) = .ok ⟨decide (2 ≤ a), h, q⟩ :=
  _root_.Peppi.decPeppiJ_encV a b c ha hb hc h q

/- from `Peppi.PeppiJson` -/
theorem slppRead_written_json2 {φ : Type} (C : Codec KVs φ) (T : TextOracle) (g : PGame KVs φ) (startBytes : Bytes) (endBytes : Option Bytes)
    (hstart : gameStart T startBytes = .ok g.start)
    (hend : endBytes.map gameEnd = g.fend.map Res.ok)
    (hgecko : ∀ c, g.gecko = some c → c.2 < 2 ^ 32)
    (hs : SizesOK C.withJson g startBytes endBytes) (skip : Bool) :
    slppRead C.withJson T skip (slppWrite C.withJson g startBytes endBytes) = .ok (if skip then { g with frames := none } else { g with frames := g.frames.map C.norm }) :=
  _root_.Peppi.slppRead_written_json2 C T g startBytes endBytes hstart hend hgecko hs skip

/- from `Peppi.SlppConsistent` -/
theorem slppEntries_names_order {μ φ : Type} (C : Codec μ φ) (g : PGame μ φ) (sb : Bytes) (eb : Option Bytes)
    (hend : eb.isSome = g.fend.isSome) :
    (slppEntries C g sb eb).map (·.1) = entryNames g.fend.isSome g.gecko.isSome g.frames.isSome :=
  _root_.Peppi.slppEntries_names_order C g sb eb hend

/- from `Peppi.SlppConsistent` -/
theorem slppEntries_consistent {μ φ : Type} (C : Codec μ φ) (T : TextOracle) (g : PGame μ φ) (sb : Bytes) (eb : Option Bytes)
    (hstart : gameStart T sb = .ok g.start) (hend : eb.map gameEnd = g.fend.map Res.ok) :
    let es := slppEntries C g sb eb
    (∃ raw s, lookupEntry N_STARTR es = some raw ∧ gameStart T raw = .ok s ∧ lookupEntry N_STARTJ es = some (C.startJson s)) ∧
    (∀ e, g.fend = some e → ∃ raw, lookupEntry N_ENDR es = some raw ∧ gameEnd raw = .ok e ∧ lookupEntry N_ENDJ es = some (C.endJson e)) ∧
    (g.fend = none → lookupEntry N_ENDR es = none ∧ lookupEntry N_ENDJ es = none) ∧
    (∃ txt, lookupEntry N_PEPPI es = some txt ∧ C.decPeppi txt = .ok ⟨true, g.hash, g.quirks⟩) :=
  _root_.Peppi.slppEntries_consistent C T g sb eb hstart hend

/- from `Peppi.SlppConsistent` -/
theorem slppWrite_deterministic {μ φ : Type} (C : Codec μ φ) (g g' : PGame μ φ) (sb sb' : Bytes) (eb eb' : Option Bytes)
    (h : g = g') (hs : sb = sb') (he : eb = eb') : slppWrite C g sb eb = slppWrite C g' sb' eb' :=
  _root_.Peppi.slppWrite_deterministic C g g' sb sb' eb eb' h hs he

end Peppi.Props.C18
