/- Property C17 — Serialising any accepted game gives a self-consistent file and a fixed point

   Statements of the machine-checked theorems this property's check relies on.  Each statement is
   spelled out here and proved from the lemma of the same name under `Peppi/` (generated once by
   `bin/mkprops.py`, then kept as source).  What is proved and what is partial: DESIGN.md §4. -/
import Peppi.Lemmas.Unified
import Peppi.Lemmas.C17
import Peppi.Lemmas.Canon
import Peppi.Lemmas.FrameStep
import Peppi.Lemmas.Body
import Peppi.Lemmas.WriteAny
import Peppi.PremisesCore
import Peppi.Lemmas.Tail
import Peppi.Lemmas.GenFile
import Peppi.Lemmas.GenInst
import Peppi.Lemmas.GenCor
import Peppi.Lemmas.GenExample
set_option linter.unusedVariables false
namespace Peppi.Props.C17

/- from `Peppi.Lemmas.Unified` -/
open Extracted in
theorem C01_any (T : TextOracle) (r : Replay) (s : Start) (gk : Option GeckoBlocks) (h : r.WFAny T s gk)
    (hmax : assertMaxVersion s.version = .ok ()) :
    ∃ g, readSlp T {} (r.encodeAny s.version (portOccupancy s) gk) = .ok g ∧
      writeSlp g = .ok (r.encodeAny s.version (portOccupancy s) gk) :=
  _root_.Peppi.C01_any T r s gk h hmax

/- from `Peppi.Lemmas.C17` -/
open Extracted in
theorem C17_unknown_A (T : TextOracle) (r : Replay) (s : Start) (u : Unknowns) (h : r.WFU T s u)
    (hmax : assertMaxVersion s.version = .ok ()) :
    ∃ g, readSlp T { skipFrames := false, computeHash := false } (r.encodeU s.version u) = .ok g ∧
      writeSlp g = .ok (r.encode s.version (portOccupancy s)) ∧
      readSlp T { skipFrames := false, computeHash := false } (r.encode s.version (portOccupancy s)) = .ok g :=
  _root_.Peppi.C17_unknown_A T r s u h hmax

/- from `Peppi.Lemmas.C17` -/
open Extracted in
theorem C17_perm_A (T : TextOracle) (r : Replay) (s : Start) (h : r.WF T s) (fr : List (FrameOcc × List BEv))
    (hp : Permuted s.version (portOccupancy s) r fr)
    (hraw : (r.rawU s.version (permStream s.version (portOccupancy s) fr)).length < 256 ^ 4)
    (hmax : assertMaxVersion s.version = .ok ()) :
    ∃ g, readSlp T { skipFrames := false, computeHash := false } (r.encodeU s.version (permStream s.version (portOccupancy s) fr)) = .ok g ∧
      writeSlp g = .ok (r.encode s.version (portOccupancy s)) ∧
      readSlp T { skipFrames := false, computeHash := false } (r.encode s.version (portOccupancy s)) = .ok g :=
  _root_.Peppi.C17_perm_A T r s h fr hp hraw hmax

/- from `Peppi.Lemmas.Canon` -/
open Extracted in
theorem readP_encode_stream (T : TextOracle) (r : Replay) (s : Start) (u : Unknowns) (F : FCols) (h : r.WFS T s u F) :
    ∃ ge : Option End, r.fend.map gameEnd = ge.map Res.ok ∧
      readP T {} (r.encodeU s.version u) = .ok (r.gameF s ge F, []) :=
  _root_.Peppi.readP_encode_stream T r s u F h

/- from `Peppi.Lemmas.FrameStep` -/
open Extracted in
theorem frame_step_perm (v : Ver) (shape : List PortOccupancy) (h : List FrameOcc) (o : FrameOcc) (st : PState) (body : List BEv)
    (hv : st.start.version = v) (h30 : v.gte 3 0 = true) (h22 : v.gte 2 2 = true)
    (hfr : st.frames = expFrames v shape h)
    (hmap : PortMapOK st.portIdx shape) (hports : ∀ p ∈ shape, p.port < 256)
    (ho : o.OK v (nSlots shape)) (hb : BodyOK v (nSlots shape) o body) :
    runEvents st (frameEventsP v shape o body) = .ok { st with frames := expFrames v shape (h ++ [o]) } :=
  _root_.Peppi.frame_step_perm v shape h o st body hv h30 h22 hfr hmap hports ho hb

/- from `Peppi.Lemmas.Body` -/
open Extracted in
theorem run_body_perm (id : Int) (hid : I32 id) (body body' : List BEv) (st : PState) (it : SCols)
    (hlast : st.lastId = some id) (hmap : PortMapOK st.portIdx (shapeOf st.frames.ports)) (hports : ∀ p ∈ st.frames.ports, p.port < 256)
    (hok : ∀ e ∈ body, e.OK st.start.version (slotList (shapeOf st.frames.ports) 0).length)
    (hok' : ∀ e ∈ body', e.OK st.start.version (slotList (shapeOf st.frames.ports) 0).length)
    (hit : st.frames.item = some it)
    (hproj : ∀ c, (body'.filterMap BEv.cev).filter (·.target == c) = (body.filterMap BEv.cev).filter (·.target == c))
    (hitems : body'.filterMap BEv.itemRow = body.filterMap BEv.itemRow) :
    runEvents st (body'.map (BEv.enc st.start.version id (slotList (shapeOf st.frames.ports) 0))) =
      runEvents st (body.map (BEv.enc st.start.version id (slotList (shapeOf st.frames.ports) 0))) :=
  _root_.Peppi.run_body_perm id hid body body' st it hlast hmap hports hok hok' hit hproj hitems

/- from `Peppi.Lemmas.Canon` -/
open Extracted in
theorem readP_encode_junk (T : TextOracle) (r : Replay) (s : Start) (u : Unknowns) (F : FCols) (h : r.WFS T s u F)
    (e : Bytes) (hfe : r.fend = some e) (hd : r.doubled = false) (junk : Bytes) (hj : 0 < junk.length)
    (hnot : ¬ looksLikeEnd s.version junk) (hrawJ : (r.rawJ s.version u junk).length < 256 ^ 4) :
    ∃ ge, gameEnd e = .ok ge ∧ readP T {} (r.encodeJ s.version u junk) = .ok (r.gameF s (some ge) F, []) :=
  _root_.Peppi.readP_encode_junk T r s u F h e hfe hd junk hj hnot hrawJ

/- from `Peppi.Lemmas.C17` -/
open Extracted in
theorem encode_declares_actual (r : Replay) (v : Ver) (shape : List PortOccupancy) :
    ∃ rest, r.encode v shape = FILE_SIGNATURE ++ (toBE 4 (r.raw v shape).length ++ (r.raw v shape ++ rest)) :=
  _root_.Peppi.encode_declares_actual r v shape

/- from `Peppi.Lemmas.WriteAny` -/
open Extracted in
theorem rawSize_A (T : TextOracle) (r : Replay) (s : Start) (h : r.WF T s) (ge : Option End)
    (hge : r.fend.map gameEnd = ge.map Res.ok) :
    rawSize (canonTable s.version r.startBlock.length (r.endLen s.version)) (r.game s ge) =
      .ok (r.raw s.version (portOccupancy s)).length :=
  _root_.Peppi.rawSize_A T r s h ge hge

/- from `Peppi.Lemmas.WriteAny` -/
open Extracted in
theorem rawSize_B (T : TextOracle) (r : Replay) (s : Start) (h : r.WFB T s) (ge : Option End)
    (hge : r.fend.map gameEnd = ge.map Res.ok) :
    rawSize (canonTableB s.version r.startBlock.length (r.endLen s.version)) (r.game s ge) =
      .ok (r.rawB s.version (portOccupancy s)).length :=
  _root_.Peppi.rawSize_B T r s h ge hge

/- from `Peppi.Lemmas.WriteAny` -/
open Extracted in
theorem rawSize_C (T : TextOracle) (r : Replay) (s : Start) (h : r.WFC T s) (ge : Option End)
    (hge : r.fend.map gameEnd = ge.map Res.ok) :
    rawSize (canonTableC s.version r.startBlock.length (r.endLen s.version)) (r.game s ge) =
      .ok (r.rawC s.version (portOccupancy s)).length :=
  _root_.Peppi.rawSize_C T r s h ge hge

/- from `Peppi.Lemmas.WriteAny` -/
open Extracted in
theorem rawSize_G (T : TextOracle) (r : Replay) (s : Start) (gk : GeckoBlocks) (h : r.WFG T s gk) (ge : Option End)
    (hge : r.fend.map gameEnd = ge.map Res.ok) :
    rawSize (canonTableG s.version r.startBlock.length (r.endLen s.version) gk.total) (r.gameG s ge gk) =
      .ok (r.rawG s.version (portOccupancy s) gk).length :=
  _root_.Peppi.rawSize_G T r s gk h ge hge

/- from `Peppi.PremisesCore` -/
open Extracted in
theorem core_End : structCoreOK true true End.views = true :=
  _root_.Peppi.core_End 

/- from `Peppi.PremisesCore` -/
open Extracted in
theorem core_Item : structCoreOK false true Item.views = true :=
  _root_.Peppi.core_Item 

/- from `Peppi.PremisesCore` -/
open Extracted in
theorem core_ItemMisc : structCoreOK false false ItemMisc.views = true :=
  _root_.Peppi.core_ItemMisc 

/- from `Peppi.PremisesCore` -/
open Extracted in
theorem core_Position : structCoreOK false true Position.views = true :=
  _root_.Peppi.core_Position 

/- from `Peppi.PremisesCore` -/
open Extracted in
theorem core_Post : structCoreOK false true Post.views = true :=
  _root_.Peppi.core_Post 

/- from `Peppi.PremisesCore` -/
open Extracted in
theorem core_Pre : structCoreOK false true Pre.views = true :=
  _root_.Peppi.core_Pre 

/- from `Peppi.PremisesCore` -/
open Extracted in
theorem core_Start : structCoreOK false true Start.views = true :=
  _root_.Peppi.core_Start 

/- from `Peppi.PremisesCore` -/
open Extracted in
theorem core_StateFlags : structCoreOK false false StateFlags.views = true :=
  _root_.Peppi.core_StateFlags 

/- from `Peppi.PremisesCore` -/
open Extracted in
theorem core_TriggersPhysical : structCoreOK false true TriggersPhysical.views = true :=
  _root_.Peppi.core_TriggersPhysical 

/- from `Peppi.PremisesCore` -/
open Extracted in
theorem core_Velocities : structCoreOK false true Velocities.views = true :=
  _root_.Peppi.core_Velocities 

/- from `Peppi.PremisesCore` -/
open Extracted in
theorem core_Velocity : structCoreOK false true Velocity.views = true :=
  _root_.Peppi.core_Velocity 

/- from `Peppi.Lemmas.Tail` -/
open Extracted in
theorem readTail_gen (T : TextOracle) (rawLen : Nat) (ps : ParseState) (md : Option KVs) (x : Bytes)
    (hbr : ps.bytesRead + x.length = rawLen) (hmd : ps.st.metadata = none)
    (hwf : ∀ m, md = some m → KVs.WF T.utf8Ok 1 m) :
    readTail T rawLen ps (x ++ metaBytes md) =
      .ok (gameOf ps.st.closed md (dgeOf ps.st.start.version x ps.st.doubleGameEnd), []) :=
  _root_.Peppi.readTail_gen T rawLen ps md x hbr hmd hwf

/- from `Peppi.Lemmas.GenFile` -/
open Extracted in
theorem readP_gen (T : TextOracle) (f : GFile) (s : Start) (psF : ParseState) (h : f.WF T s psF) :
    ∃ ge : Option End, f.fend.map gameEnd = ge.map Res.ok ∧
      readP T {} f.encode =
        .ok (gameOf ({ psF.st with fend := ge } : PState).closed f.metadata (dgeOf s.version f.extra none), []) :=
  _root_.Peppi.readP_gen T f s psF h

/- from `Peppi.Lemmas.GenInst` -/
open Extracted in
theorem readP_irregular (T : TextOracle) (r : Replay) (s : Start) (gk : Option GeckoBlocks) (i : Irr) (h : i.OK T r s gk) :
    ∃ ge : Option End, r.fend.map gameEnd = ge.map Res.ok ∧
      readP T {} (r.fileIrr s gk i).encode = .ok (r.gameAny s ge gk, []) :=
  _root_.Peppi.readP_irregular T r s gk i h

/- from `Peppi.Lemmas.GenCor` -/
open Extracted in
theorem C17_any (T : TextOracle) (r : Replay) (s : Start) (gk : Option GeckoBlocks) (i : Irr) (h : i.OK T r s gk)
    (hmax : assertMaxVersion s.version = .ok ()) :
    ∃ g y, readSlp T { skipFrames := false, computeHash := false } (r.fileIrr s gk i).encode = .ok g ∧
      writeSlp g = .ok y ∧
      (∃ raw rest, y = FILE_SIGNATURE ++ (toBE 4 raw.length ++ (raw ++ rest)) ∧ raw.length < 256 ^ 4) ∧
      readSlp T { skipFrames := false, computeHash := false } y = .ok g ∧
      (∀ g', readSlp T { skipFrames := false, computeHash := false } y = .ok g' → writeSlp g' = .ok y) :=
  _root_.Peppi.C17_any T r s gk i h hmax

/- from `Peppi.Lemmas.GenCor` -/
open Extracted in
theorem encodeAny_declares_actual (r : Replay) (v : Ver) (shape : List PortOccupancy) (gk : Option GeckoBlocks) :
    ∃ rest, r.encodeAny v shape gk = FILE_SIGNATURE ++ (toBE 4 (r.rawAny v shape gk).length ++ (r.rawAny v shape gk ++ rest)) :=
  _root_.Peppi.encodeAny_declares_actual r v shape gk

/- from `Peppi.Lemmas.GenExample` -/
open Extracted in
theorem exampleIrr_B_fixedpoint :
    let r := exReplay (exBlock 2 2 418) (exFrames [-123, -122, -122] 16 23 1 0 0 false) [2, 255]
    let s := startOf (exBlock 2 2 418)
    let i := exIrr s.version 418 2 none (portOccupancy s) (exFrames [-123, -122, -122] 16 23 1 0 0 false) []
    ∃ g y, readSlp T0 { skipFrames := false, computeHash := false } (r.fileIrr s none i).encode = .ok g ∧ writeSlp g = .ok y ∧
      readSlp T0 { skipFrames := false, computeHash := false } y = .ok g :=
  _root_.Peppi.exampleIrr_B_fixedpoint 

/- from `Peppi.Lemmas.GenInst` -/
open Extracted in
theorem canonUpToOrder_run {T : TextOracle} {r : Replay} {s : Start} {gk : Option GeckoBlocks} (h : r.WFAny T s gk) (st : PState)
    (hst : st.start = s) (hfr : st.frames = FCols.new s.version (portOccupancy s)) (hpi : st.portIdx = portIdxOf (portOccupancy s))
    (es : List (Nat × Bytes)) (hc : CanonUpToOrder s r es) :
    (∃ st', runEvents st es = .ok st' ∧ st'.ctx = st.ctx ∧ st'.fend = st.fend ∧
      st'.gecko = st.gecko ∧ st'.metadata = st.metadata ∧ st'.doubleGameEnd = st.doubleGameEnd ∧
      (if s.version.lt 3 0 then st'.frames.close else st'.frames) = expFrames s.version (portOccupancy s) r.frames) ∧
    (∀ e ∈ es, e.1 ≠ EV_SPLITTER ∧ e.1 ≠ EV_GAME_END) :=
  _root_.Peppi.canonUpToOrder_run h st hst hfr hpi es hc

/- from `Peppi.Lemmas.GenExample` -/
open Extracted in
theorem exampleIrr_P :
    let r := exReplay (exBlock 3 16 760) (exFrames [-123, -122, -122] 17 32 2 16 1 true) [2, 255, 0, 1, 255, 255]
    let s := startOf (exBlock 3 16 760)
    let es := (r.frames.map fun o => (o, itemsFirst o)).flatMap fun ob => frameEventsP s.version (portOccupancy s) ob.1 ob.2
    ({ table := canonTableAny s.version 760 6 none ++ [(0x50, 3), (0x51, 1)], mixed := spliceUnknown es, junk := [] } : Irr).OK T0 r s none :=
  _root_.Peppi.exampleIrr_P 

end Peppi.Props.C17
