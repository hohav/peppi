/- Property C15 — Rollback de-duplication marks all but the first/last occurrence of each frame id

   Statements of the machine-checked theorems this property's check relies on.  Each statement is
   spelled out here and proved from the lemma of the same name under `Peppi/` (generated once by
   `bin/mkprops.py`, then kept as source).  What is proved and what is partial: DESIGN.md §4. -/
import Peppi.RollbacksProof
import Peppi.RollbacksUnique
import Peppi.RollbacksReverse
set_option linter.unusedVariables false
namespace Peppi.Props.C15

/- from `Peppi.RollbacksProof` -/
theorem C15_first (ids : List Int) (h : ∀ x ∈ ids, FIRST_INDEX ≤ x) :
    ∃ m, rollbacks .exceptFirst ids = .ok m ∧ m.length = ids.length ∧
      ∀ i (hi : i < ids.length), (m[i]? = some true ↔ ∃ j, ∃ hj : j < i, ids[j] = ids[i]) :=
  _root_.Peppi.C15_first ids h

/- from `Peppi.RollbacksProof` -/
theorem C15_last (ids : List Int) (h : ∀ x ∈ ids, FIRST_INDEX ≤ x) :
    ∃ m, rollbacks .exceptLast ids = .ok m ∧ m.length = ids.length ∧
      ∀ i (hi : i < ids.length), (m[i]? = some true ↔ ∃ j, ∃ hj : j < ids.length, i < j ∧ ids[j] = ids[i]) :=
  _root_.Peppi.C15_last ids h

/- from `Peppi.RollbacksUnique` -/
theorem C15_first_nodup (ids : List Int) (h : ∀ x ∈ ids, FIRST_INDEX ≤ x) (hnd : ids.Nodup) :
    ∃ m, rollbacks .exceptFirst ids = .ok m ∧ m.length = ids.length ∧ ∀ b ∈ m, b = false :=
  _root_.Peppi.C15_first_nodup ids h hnd

/- from `Peppi.RollbacksUnique` -/
theorem C15_first_keeps_first (ids : List Int) (h : ∀ x ∈ ids, FIRST_INDEX ≤ x) (i : Nat) (hi : i < ids.length)
    (hfirst : ∀ j, ∀ hj : j < i, ids[j] ≠ ids[i]) :
    ∃ m, rollbacks .exceptFirst ids = .ok m ∧ m[i]? = some false :=
  _root_.Peppi.C15_first_keeps_first ids h i hi hfirst

/- from `Peppi.RollbacksUnique` -/
theorem C15_last_keeps_last (ids : List Int) (h : ∀ x ∈ ids, FIRST_INDEX ≤ x) (i : Nat) (hi : i < ids.length)
    (hlast : ∀ j, ∀ hj : j < ids.length, i < j → ids[j] ≠ ids[i]) :
    ∃ m, rollbacks .exceptLast ids = .ok m ∧ m[i]? = some false :=
  _root_.Peppi.C15_last_keeps_last ids h i hi hlast

/- from `Peppi.RollbacksUnique` -/
theorem C15_first_unique (ids : List Int) (h : ∀ x ∈ ids, FIRST_INDEX ≤ x) :
    ∃ m, rollbacks .exceptFirst ids = .ok m ∧ m.length = ids.length ∧
      ∀ x ∈ ids, ∃ i, (∃ hi : i < ids.length, ids[i] = x ∧ m[i]? = some false) ∧
        ∀ k, ∀ hk : k < ids.length, ids[k] = x → m[k]? = some false → k = i :=
  _root_.Peppi.C15_first_unique ids h

/- from `Peppi.RollbacksUnique` -/
theorem C15_last_unique (ids : List Int) (h : ∀ x ∈ ids, FIRST_INDEX ≤ x) :
    ∃ m, rollbacks .exceptLast ids = .ok m ∧ m.length = ids.length ∧
      ∀ x ∈ ids, ∃ i, (∃ hi : i < ids.length, ids[i] = x ∧ m[i]? = some false) ∧
        ∀ k, ∀ hk : k < ids.length, ids[k] = x → m[k]? = some false → k = i :=
  _root_.Peppi.C15_last_unique ids h

/- from `Peppi.RollbacksUnique` -/
theorem C15_last_nodup (ids : List Int) (h : ∀ x ∈ ids, FIRST_INDEX ≤ x) (hnd : ids.Nodup) :
    ∃ m, rollbacks .exceptLast ids = .ok m ∧ m.length = ids.length ∧ ∀ b ∈ m, b = false :=
  _root_.Peppi.C15_last_nodup ids h hnd

/- from `Peppi.RollbacksReverse` -/
theorem C15_modes_mirror (ids : List Int) (h : ∀ x ∈ ids, FIRST_INDEX ≤ x) :
    ∃ m1 m2, rollbacks .exceptLast ids = .ok m1 ∧ rollbacks .exceptFirst ids.reverse = .ok m2 ∧ m1 = m2.reverse :=
  _root_.Peppi.C15_modes_mirror ids h

end Peppi.Props.C15
