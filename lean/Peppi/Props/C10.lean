/- Property C10 — Skip-frames parsing returns the same start, end and metadata as a full parse

   Statements of the machine-checked theorems this property's check relies on.  Each statement is
   spelled out here and proved from the lemma of the same name under `Peppi/` (generated once by
   `bin/mkprops.py`, then kept as source).  What is proved and what is partial: DESIGN.md §4. -/
import Peppi.Lemmas.Skip
import Peppi.Lemmas.Unified
import Peppi.Lemmas.PeppiRound
import Peppi.Lemmas.Example
import Peppi.Lemmas.Unified2
import Peppi.SlppBytes
set_option linter.unusedVariables false
namespace Peppi.Props.C10

/- from `Peppi.Lemmas.Skip` -/
open Extracted in
theorem C10_any (T : TextOracle) (r : Replay) (s : Start) (gk : Option GeckoBlocks) (h : r.WFAny T s gk)
    (e : Bytes) (hfe : r.fend = some e) (hash : Bool) :
    ∃ ge, gameEnd e = .ok ge ∧
      readP T { skipFrames := true, computeHash := hash } (r.encodeAny s.version (portOccupancy s) gk) = .ok (r.gameSkip s ge, []) :=
  _root_.Peppi.C10_any T r s gk h e hfe hash

/- from `Peppi.Lemmas.Unified` -/
open Extracted in
theorem C10_any_agree (T : TextOracle) (r : Replay) (s : Start) (gk : Option GeckoBlocks) (h : r.WFAny T s gk)
    (e : Bytes) (hfe : r.fend = some e) (hash : Bool) :
    ∃ gFull gSkip, readSlp T { skipFrames := false, computeHash := hash } (r.encodeAny s.version (portOccupancy s) gk) = .ok gFull ∧
      readSlp T { skipFrames := true, computeHash := hash } (r.encodeAny s.version (portOccupancy s) gk) = .ok gSkip ∧
      gSkip.start = gFull.start ∧ gSkip.fend = gFull.fend ∧ gSkip.metadata = gFull.metadata ∧ gSkip.hashedLen = gFull.hashedLen ∧
      gFull.hashedLen = (if hash then some (r.encodeAny s.version (portOccupancy s) gk).length else none) ∧
      gSkip.frames = FCols.new s.version (portOccupancy s) :=
  _root_.Peppi.C10_any_agree T r s gk h e hfe hash

/- from `Peppi.Lemmas.Skip` -/
open Extracted in
theorem skip_gen (T : TextOracle) (ps : ParseState) (rawLen : Nat) (mid e : Bytes) (ge : End) (md : Option KVs)
    (hsz : sizeOfEv ps.st.sizes EV_GAME_END = some e.length) (hge : gameEnd e = .ok ge)
    (hraw : rawLen = ps.bytesRead + mid.length + (1 + e.length))
    (hmd : ps.st.metadata = none) (hwf : ∀ m, md = some m → KVs.WF T.utf8Ok 1 m) :
    (skipToEnd rawLen ps >>= loopTail T rawLen) (mid ++ (encEvent (EV_GAME_END, e) ++ metaBytes md)) =
      .ok (gameOf { ps.st with fend := some ge, frames := skipFrames ps.st } md ps.st.doubleGameEnd, []) :=
  _root_.Peppi.skip_gen T ps rawLen mid e ge md hsz hge hraw hmd hwf

/- from `Peppi.Lemmas.Skip` -/
open Extracted in
theorem readP_skip_A (T : TextOracle) (r : Replay) (s : Start) (h : r.WF T s) (e : Bytes) (hfe : r.fend = some e) (hash : Bool) :
    ∃ ge, gameEnd e = .ok ge ∧
      readP T { skipFrames := true, computeHash := hash } (r.encode s.version (portOccupancy s)) = .ok (r.gameSkip s ge, []) :=
  _root_.Peppi.readP_skip_A T r s h e hfe hash

/- from `Peppi.Lemmas.Skip` -/
open Extracted in
theorem readP_skip_B (T : TextOracle) (r : Replay) (s : Start) (h : r.WFB T s) (e : Bytes) (hfe : r.fend = some e) (hash : Bool) :
    ∃ ge, gameEnd e = .ok ge ∧
      readP T { skipFrames := true, computeHash := hash } (r.encodeB s.version (portOccupancy s)) = .ok (r.gameSkip s ge, []) :=
  _root_.Peppi.readP_skip_B T r s h e hfe hash

/- from `Peppi.Lemmas.Skip` -/
open Extracted in
theorem readP_skip_C (T : TextOracle) (r : Replay) (s : Start) (h : r.WFC T s) (e : Bytes) (hfe : r.fend = some e) (hash : Bool) :
    ∃ ge, gameEnd e = .ok ge ∧
      readP T { skipFrames := true, computeHash := hash } (r.encodeC s.version (portOccupancy s)) = .ok (r.gameSkip s ge, []) :=
  _root_.Peppi.readP_skip_C T r s h e hfe hash

/- from `Peppi.Lemmas.Skip` -/
open Extracted in
theorem readP_skip_G (T : TextOracle) (r : Replay) (s : Start) (gk : GeckoBlocks) (h : r.WFG T s gk) (e : Bytes) (hfe : r.fend = some e)
    (hash : Bool) :
    ∃ ge, gameEnd e = .ok ge ∧
      readP T { skipFrames := true, computeHash := hash } (r.encodeG s.version (portOccupancy s) gk) = .ok (r.gameSkip s ge, []) :=
  _root_.Peppi.readP_skip_G T r s gk h e hfe hash

/- from `Peppi.Lemmas.Unified` -/
open Extracted in
theorem C10_slp_A (T : TextOracle) (r : Replay) (s : Start) (h : r.WF T s) (e : Bytes) (hfe : r.fend = some e) (hash : Bool) :
    ∃ gFull gSkip, readSlp T { skipFrames := false, computeHash := hash } (r.encode s.version (portOccupancy s)) = .ok gFull ∧
      readSlp T { skipFrames := true, computeHash := hash } (r.encode s.version (portOccupancy s)) = .ok gSkip ∧
      gSkip.start = gFull.start ∧ gSkip.fend = gFull.fend ∧ gSkip.metadata = gFull.metadata ∧ gSkip.hashedLen = gFull.hashedLen ∧
      gSkip.frames = FCols.new s.version (portOccupancy s) :=
  _root_.Peppi.C10_slp_A T r s h e hfe hash

/- from `Peppi.Lemmas.PeppiRound` -/
theorem peppiRead_written_skip {μ φ : Type} (T : TextOracle) (g : PGame μ φ) (startBytes : Bytes) (endBytes : Option Bytes) (trailerOk : Bool)
    (hstart : gameStart T startBytes = .ok g.start)
    (hend : endBytes.map gameEnd = g.fend.map Res.ok)
    (hgecko : ∀ c, g.gecko = some c → c.2 < 2 ^ 32)
    (hframes : g.frames = none → trailerOk = true) :
    peppiRead T true trailerOk (writtenEntries g startBytes endBytes) = .ok { g with frames := none } :=
  _root_.Peppi.peppiRead_written_skip T g startBytes endBytes trailerOk hstart hend hgecko hframes

/- from `Peppi.Lemmas.Example` -/
open Extracted in
theorem example_A : (exReplay (exBlock 3 16 760) (exFrames [-123, -122, -122] 17 32 2 16 1 true) [2, 255, 0, 1, 255, 255]).WFAny T0
    (startOf (exBlock 3 16 760)) none :=
  _root_.Peppi.example_A 

/- from `Peppi.Lemmas.Example` -/
open Extracted in
theorem example_B : (exReplay (exBlock 2 2 418) (exFrames [-123, -122, -122] 16 23 1 0 0 false) [2, 255]).WFAny T0
    (startOf (exBlock 2 2 418)) none :=
  _root_.Peppi.example_B 

/- from `Peppi.Lemmas.Example` -/
open Extracted in
theorem example_C : (exReplay (exBlock 1 0 352) (exFrames [-123, -122, -121] 14 12 1 0 0 false) [2]).WFAny T0
    (startOf (exBlock 1 0 352)) none :=
  _root_.Peppi.example_C 

/- from `Peppi.Lemmas.Example` -/
open Extracted in
theorem example_G : (exReplay (exBlock 3 16 760) (exFrames [-123, -122, -122] 17 32 2 16 1 true) [2, 255, 0, 1, 255, 255]).WFAny T0
    (startOf (exBlock 3 16 760)) (some exGecko) :=
  _root_.Peppi.example_G 

/- from `Peppi.Lemmas.Example` -/
open Extracted in
theorem example_A_roundtrip :
    let r := exReplay (exBlock 3 16 760) (exFrames [-123, -122, -122] 17 32 2 16 1 true) [2, 255, 0, 1, 255, 255]
    let s := startOf (exBlock 3 16 760)
    (∃ g, readSlp T0 {} (r.encodeAny s.version (portOccupancy s) none) = .ok g ∧
      writeSlp g = .ok (r.encodeAny s.version (portOccupancy s) none)) ∧
    ∀ n, n < (r.encodeAny s.version (portOccupancy s) none).length →
      ∃ e, readSlp T0 {} ((r.encodeAny s.version (portOccupancy s) none).take n) = .err e :=
  _root_.Peppi.example_A_roundtrip 

/- from `Peppi.Lemmas.Unified2` -/
open Extracted in
theorem C10_rewrite_any (T : TextOracle) (r : Replay) (s : Start) (gk : Option GeckoBlocks) (h : r.WFAny T s gk)
    (hmax : assertMaxVersion s.version = .ok ()) (e : Bytes) (hfe : r.fend = some e) (hash : Bool) :
    ∃ gSkip, readSlp T { skipFrames := true, computeHash := hash } (r.encodeAny s.version (portOccupancy s) gk) = .ok gSkip ∧
      writeSlp gSkip = writeSlp { gSkip with hashedLen := none } ∧
      writeSlp { gSkip with hashedLen := none } = .ok (r.skipped.encodeAny s.version (portOccupancy s) none) ∧
      readSlp T {} (r.skipped.encodeAny s.version (portOccupancy s) none) = .ok { gSkip with hashedLen := none } ∧
      readSlp T { skipFrames := true } (r.skipped.encodeAny s.version (portOccupancy s) none) = .ok { gSkip with hashedLen := none } :=
  _root_.Peppi.C10_rewrite_any T r s gk h hmax e hfe hash

/- from `Peppi.SlppBytes` -/
theorem slppRead_written {μ φ : Type} (C : Codec μ φ) (T : TextOracle) (g : PGame μ φ) (startBytes : Bytes) (endBytes : Option Bytes)
    (hstart : gameStart T startBytes = .ok g.start)
    (hend : endBytes.map gameEnd = g.fend.map Res.ok)
    (hgecko : ∀ c, g.gecko = some c → c.2 < 2 ^ 32)
    (hs : SizesOK C g startBytes endBytes) (skip : Bool) :
    slppRead C T skip (slppWrite C g startBytes endBytes) =
      .ok (if skip then { g with frames := none } else { g with frames := g.frames.map C.norm }) :=
  _root_.Peppi.slppRead_written C T g startBytes endBytes hstart hend hgecko hs skip

end Peppi.Props.C10
