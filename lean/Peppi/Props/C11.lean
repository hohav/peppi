/- Property C11 — The replay hash is the XXH3-64 of exactly the file's bytes, however they arrive

   Statements of the machine-checked theorems this property's check relies on.  Each statement is
   spelled out here and proved from the lemma of the same name under `Peppi/` (generated once by
   `bin/mkprops.py`, then kept as source).  What is proved and what is partial: DESIGN.md §4. -/
import Peppi.Lemmas.Unified
import Peppi.Stream
import Peppi.Hash
import Peppi.HashValue
import Peppi.Prog
import Peppi.ReadProg
import Peppi.ReadStream
import Peppi.PeppiJson
set_option linter.unusedVariables false
namespace Peppi.Props.C11

/- from `Peppi.Lemmas.Unified` -/
open Extracted in
theorem C10_any_agree (T : TextOracle) (r : Replay) (s : Start) (gk : Option GeckoBlocks) (h : r.WFAny T s gk)
    (e : Bytes) (hfe : r.fend = some e) (hash : Bool) :
    ∃ gFull gSkip, readSlp T { skipFrames := false, computeHash := hash } (r.encodeAny s.version (portOccupancy s) gk) = .ok gFull ∧
      readSlp T { skipFrames := true, computeHash := hash } (r.encodeAny s.version (portOccupancy s) gk) = .ok gSkip ∧
      gSkip.start = gFull.start ∧ gSkip.fend = gFull.fend ∧ gSkip.metadata = gFull.metadata ∧ gSkip.hashedLen = gFull.hashedLen ∧
      gFull.hashedLen = (if hash then some (r.encodeAny s.version (portOccupancy s) gk).length else none) ∧
      gSkip.frames = FCols.new s.version (portOccupancy s) :=
  _root_.Peppi.C10_any_agree T r s gk h e hfe hash

/- from `Peppi.Lemmas.Unified` -/
open Extracted in
theorem C11_range_A (T : TextOracle) (r : Replay) (s : Start) (h : r.WF T s) :
    (∃ g, readSlp T { skipFrames := false, computeHash := true } (r.encode s.version (portOccupancy s)) = .ok g ∧
        g.hashedLen = some (r.encode s.version (portOccupancy s)).length) ∧
    (∃ g, readSlp T { skipFrames := false, computeHash := false } (r.encode s.version (portOccupancy s)) = .ok g ∧
        g.hashedLen = none) ∧
    (∀ e, r.fend = some e → ∃ g, readSlp T { skipFrames := true, computeHash := true } (r.encode s.version (portOccupancy s)) = .ok g ∧
        g.hashedLen = some (r.encode s.version (portOccupancy s)).length) :=
  _root_.Peppi.C11_range_A T r s h

/- from `Peppi.Stream` -/
theorem readExactS_flat : ∀ (s : Stream) (n : Nat),
    (∀ b s', readExactS n s = .ok (b, s') → Rd.take n s.flatten = .ok (b, s'.flatten)) ∧
    (∀ e, readExactS n s = .err e → ∃ e', Rd.take n s.flatten = .err e') ∧
    (∀ p, readExactS n s ≠ .panic p) :=
  _root_.Peppi.readExactS_flat 

/- from `Peppi.Hash` -/
theorem formatHash_length (d : Nat) : (formatHash d).length = 21 :=
  _root_.Peppi.formatHash_length d

/- from `Peppi.Hash` -/
theorem formatHash_prefix (d : Nat) : (formatHash d).take 5 = "xxh3:".toList :=
  _root_.Peppi.formatHash_prefix d

/- from `Peppi.Hash` -/
theorem hexN_lower (k n : Nat) : ∀ c ∈ hexN k n, isLowerHex c = true :=
  _root_.Peppi.hexN_lower k n

/- from `Peppi.Hash` -/
theorem formatHash_inj (a b : Nat) (ha : a < 2 ^ 64) (hb : b < 2 ^ 64) (h : formatHash a = formatHash b) : a = b :=
  _root_.Peppi.formatHash_inj a b ha hb h

/- from `Peppi.Lemmas.Unified` -/
open Extracted in
theorem C11_range_any (T : TextOracle) (r : Replay) (s : Start) (gk : Option GeckoBlocks) (h : r.WFAny T s gk) (hash : Bool) :
    ∃ g, readSlp T { skipFrames := false, computeHash := hash } (r.encodeAny s.version (portOccupancy s) gk) = .ok g ∧
      g.hashedLen = (if hash then some (r.encodeAny s.version (portOccupancy s) gk).length else none) :=
  _root_.Peppi.C11_range_any T r s gk h hash

/- from `Peppi.HashValue` -/
theorem C11_value_any (T : TextOracle) (r : Replay) (s : Start) (gk : Option GeckoBlocks) (h : r.WFAny T s gk) (hash : Bool) :
    ∃ g, readSlp T { skipFrames := false, computeHash := hash } (r.encodeAny s.version (portOccupancy s) gk) = .ok g ∧
      g.hashStr (r.encodeAny s.version (portOccupancy s) gk) =
        (if hash then some (formatHash (xxh3_64 (r.encodeAny s.version (portOccupancy s) gk))) else none) :=
  _root_.Peppi.C11_value_any T r s gk h hash

/- from `Peppi.Prog` -/
open Peppi.Prog in
theorem frag {α} (p : Prog α) : ∀ (h : HSrc),
    (∀ a rest, p.run h.pieces.flatten = .ok (a, rest) →
      ∃ s' used, p.runS h = .ok (a, ⟨s', h.fed.map (· ++ used)⟩) ∧ s'.flatten = rest ∧ h.pieces.flatten = used ++ rest) ∧
    (∀ e, p.run h.pieces.flatten = .err e → ∃ e', p.runS h = .err e') ∧
    (∀ x, p.run h.pieces.flatten = .panic x → p.runS h = .panic x) :=
  _root_.Peppi.Prog.frag p

/- from `Peppi.ReadProg` -/
open Extracted Peppi.Prog in
theorem run_readProg (T : TextOracle) (opts : Opts) (fuel : Nat) (x : Bytes) (hf : 2 * x.length + 2 ≤ fuel) :
    (readProg T opts fuel).run x = readP T opts x :=
  _root_.Peppi.Prog.run_readProg T opts fuel x hf

/- from `Peppi.ReadStream` -/
open Extracted Prog in
theorem readSlpS_frag (T : TextOracle) (opts : Opts) (s : Stream) :
    (∀ g, readSlp T opts s.flatten = .ok g →
      ∃ fed, readSlpS T opts s = .ok (g, fed) ∧
        (opts.computeHash = true → ∃ used rest, fed = some used ∧ s.flatten = used ++ rest ∧ g.hashedLen = some used.length) ∧
        (opts.computeHash = false → fed = none ∧ g.hashedLen = none)) ∧
    (∀ e, readSlp T opts s.flatten = .err e → ∃ e', readSlpS T opts s = .err e') ∧
    (∀ p, readSlp T opts s.flatten = .panic p → readSlpS T opts s = .panic p) :=
  _root_.Peppi.readSlpS_frag T opts s

/- from `Peppi.PeppiJson` -/
theorem decPeppiJ_enc (h : Option String) (q : Option Bool) : decPeppiJ (encPeppiJ h q) = .ok ⟨true, h, q⟩ :=
  _root_.Peppi.decPeppiJ_enc h q

/- from `Peppi.HashValue` -/
theorem hashStr_inj (a b : Bytes) (h : formatHash (xxh3_64 a) = formatHash (xxh3_64 b)) : xxh3_64 a = xxh3_64 b :=
  _root_.Peppi.hashStr_inj a b h

end Peppi.Props.C11
