/- Property C20 — Version comparison, parsing and display are mutually consistent and total

   Statements of the machine-checked theorems this property's check relies on.  Each statement is
   spelled out here and proved from the lemma of the same name under `Peppi/` (generated once by
   `bin/mkprops.py`, then kept as source).  What is proved and what is partial: DESIGN.md §4. -/
import Peppi.VersionProof
import Peppi.VersionMore
import Peppi.VersionText
set_option linter.unusedVariables false
namespace Peppi.Props.C20

/- from `Peppi.VersionProof` -/
theorem Ver_gte_iff (v : Ver) (M m : Nat) : v.gte M m = true ↔ (M < v.major ∨ (M = v.major ∧ m ≤ v.minor)) :=
  _root_.Peppi.Ver.gte_iff v M m

/- from `Peppi.VersionProof` -/
theorem Ver_lt_iff (v : Ver) (M m : Nat) : v.lt M m = true ↔ ¬ (M < v.major ∨ (M = v.major ∧ m ≤ v.minor)) :=
  _root_.Peppi.Ver.lt_iff v M m

/- from `Peppi.VersionProof` -/
theorem Ver_gte_mono (v w : Ver) (M m : Nat) (h : v.major < w.major ∨ (v.major = w.major ∧ v.minor ≤ w.minor))
    (hv : v.gte M m = true) : w.gte M m = true :=
  _root_.Peppi.Ver.gte_mono v w M m h hv

/- from `Peppi.VersionProof` -/
theorem Ver_gte_trans (v : Ver) (M m M' m' : Nat) (h : M' < M ∨ (M' = M ∧ m' ≤ m)) (hv : v.gte M m = true) : v.gte M' m' = true :=
  _root_.Peppi.Ver.gte_trans v M m M' m' h hv

/- from `Peppi.VersionProof` -/
theorem Ver_parse_display (v : Ver) (h : v.WF) : Ver.parse v.display = .ok v :=
  _root_.Peppi.Ver.parse_display v h

/- from `Peppi.VersionProof` -/
theorem parseU8_iff (s : List Char) (n : Nat) : parseU8 s = some n ↔ U8Lit s n :=
  _root_.Peppi.parseU8_iff s n

/- from `Peppi.VersionProof` -/
theorem Ver_parse_iff (s : List Char) (v : Ver) : Ver.parse s = .ok v ↔
    ∃ a b c, s = a ++ '.' :: (b ++ '.' :: c) ∧ a.all (· ≠ '.') = true ∧ b.all (· ≠ '.') = true ∧ c.all (· ≠ '.') = true ∧
      U8Lit a v.major ∧ U8Lit b v.minor ∧ U8Lit c v.patch :=
  _root_.Peppi.Ver.parse_iff s v

/- from `Peppi.VersionProof` -/
theorem Ver_parse_total (s : List Char) : (∃ v, Ver.parse s = .ok v) ∨ (∃ e, Ver.parse s = .err e) :=
  _root_.Peppi.Ver.parse_total s

/- from `Peppi.VersionProof` -/
theorem Ver_gte_patch (v : Ver) (p M m : Nat) : ({ v with patch := p } : Ver).gte M m = v.gte M m :=
  _root_.Peppi.Ver.gte_patch v p M m

/- from `Peppi.VersionProof` -/
theorem Ver_lt_patch (v : Ver) (p M m : Nat) : ({ v with patch := p } : Ver).lt M m = v.lt M m :=
  _root_.Peppi.Ver.lt_patch v p M m

/- from `Peppi.VersionProof` -/
theorem Ver_gte_or_lt (v : Ver) (M m : Nat) : (v.gte M m = true ∧ v.lt M m = false) ∨ (v.gte M m = false ∧ v.lt M m = true) :=
  _root_.Peppi.Ver.gte_or_lt v M m

/- from `Peppi.VersionMore` -/
theorem Ver_gte_self (v : Ver) : v.gte v.major v.minor = true :=
  _root_.Peppi.Ver.gte_self v

/- from `Peppi.VersionMore` -/
theorem Ver_gte_total (v w : Ver) : v.gte w.major w.minor = true ∨ w.gte v.major v.minor = true :=
  _root_.Peppi.Ver.gte_total v w

/- from `Peppi.VersionMore` -/
theorem Ver_gte_antisymm (v w : Ver) (h1 : v.gte w.major w.minor = true) (h2 : w.gte v.major v.minor = true) :
    v.major = w.major ∧ v.minor = w.minor ∧ ∀ M m, v.gte M m = w.gte M m :=
  _root_.Peppi.Ver.gte_antisymm v w h1 h2

/- from `Peppi.VersionMore` -/
theorem Ver_lt_mono (v w : Ver) (M m : Nat) (h : v.major < w.major ∨ (v.major = w.major ∧ v.minor ≤ w.minor))
    (hw : w.lt M m = true) : v.lt M m = true :=
  _root_.Peppi.Ver.lt_mono v w M m h hw

/- from `Peppi.VersionMore` -/
theorem Ver_parse_wf (s : List Char) (v : Ver) (h : Ver.parse s = .ok v) : v.WF :=
  _root_.Peppi.Ver.parse_wf s v h

/- from `Peppi.VersionMore` -/
theorem Ver_display_inj (v w : Ver) (hv : v.WF) (hw : w.WF) (h : v.display = w.display) : v = w :=
  _root_.Peppi.Ver.display_inj v w hv hw h

/- from `Peppi.VersionMore` -/
theorem Ver_parse_display_parse (s : List Char) (v : Ver) (h : Ver.parse s = .ok v) : Ver.parse v.display = .ok v :=
  _root_.Peppi.Ver.parse_display_parse s v h

/- from `Peppi.VersionProof` -/
theorem showU8_canonical : ∀ n, n < 256 →
    (showU8 n).all isDigit = true ∧ 1 ≤ (showU8 n).length ∧ (showU8 n).length ≤ 3 ∧
    ((showU8 n).head? = some '0' → n = 0) :=
  _root_.Peppi.showU8_canonical 

/- from `Peppi.VersionText` -/
theorem Ver_display_length (v : Ver) (h : v.WF) : 5 ≤ v.display.length ∧ v.display.length ≤ 11 :=
  _root_.Peppi.Ver.display_length v h

/- from `Peppi.VersionText` -/
theorem Ver_display_chars (v : Ver) (h : v.WF) :
    v.display.all (fun c => isDigit c || c == '.') = true ∧ (v.display.filter (· == '.')).length = 2 :=
  _root_.Peppi.Ver.display_chars v h

end Peppi.Props.C20
