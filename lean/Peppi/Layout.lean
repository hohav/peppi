import Peppi.Bytes
import Peppi.VersionProof
/-! Generic, table-driven model of the generated per-struct row codecs
    (`read_push`, `write`, `size`), and the theory that C01/C03/C13 instantiate. -/
namespace Peppi

/-- one flattened leaf of a generated struct -/
structure Fld where
  id : Nat                    -- leaf id (position in the flattened struct)
  width : Nat                 -- bytes
  gates : List (Nat × Nat)    -- conjunction of the enclosing `version.gte(a, b)`
deriving DecidableEq, Repr

def visible (v : Ver) (f : Fld) : Bool := f.gates.all (fun g => v.gte g.1 g.2)

/-- `read_push` for one row: values in field order, rest of the payload -/
def readRow (v : Ver) : List Fld → Bytes → Option (List Nat × Bytes)
  | [], bs => some ([], bs)
  | f :: fs, bs =>
    if visible v f then
      if bs.length < f.width then none
      else match readRow v fs (bs.drop f.width) with
        | none => none
        | some (vals, rest) => some (fromBE (bs.take f.width) :: vals, rest)
    else readRow v fs bs

/-- `write` for one row -/
def writeRow (v : Ver) : List Fld → List Nat → Bytes
  | [], _ => []
  | f :: fs, vals =>
    if visible v f then
      match vals with
      | [] => []
      | x :: xs => toBE f.width x ++ writeRow v fs xs
    else writeRow v fs vals

/-- `size` -/
def rowSize (v : Ver) : List Fld → Nat
  | [] => 0
  | f :: fs => (if visible v f then f.width else 0) + rowSize v fs

/-- one value per visible field, each below `256 ^ width` -/
def RowOK (v : Ver) : List Fld → List Nat → Prop
  | [], vals => vals = []
  | f :: fs, vals =>
    if visible v f then ∃ x xs, vals = x :: xs ∧ x < 256 ^ f.width ∧ RowOK v fs xs
    else RowOK v fs vals

section cons
variable {v : Ver} {f : Fld}

theorem readRow_cons_of_not_visible (hv : visible v f = false) (fs : List Fld) (bs : Bytes) :
    readRow v (f :: fs) bs = readRow v fs bs := by
  simp [readRow, hv]

theorem readRow_cons_eq_some (hv : visible v f = true) {fs : List Fld} {bs : Bytes} {vals : List Nat} {rest : Bytes} :
    readRow v (f :: fs) bs = some (vals, rest) ↔
      f.width ≤ bs.length ∧
        ∃ vals', readRow v fs (bs.drop f.width) = some (vals', rest) ∧ fromBE (bs.take f.width) :: vals' = vals := by
  simp only [readRow, hv, ↓reduceIte]
  by_cases hlen : bs.length < f.width
  · simp only [hlen, ↓reduceIte, reduceCtorEq, false_iff]; omega
  · cases readRow v fs (bs.drop f.width) with
    | none => simp [hlen]
    | some p =>
      obtain ⟨vs, r⟩ := p
      simp [hlen, Nat.le_of_not_lt hlen, and_assoc, and_comm]

theorem RowOK_cons_of_visible (hv : visible v f = true) {fs : List Fld} {vals : List Nat} :
    RowOK v (f :: fs) vals ↔ ∃ x xs, vals = x :: xs ∧ x < 256 ^ f.width ∧ RowOK v fs xs := by
  simp [RowOK, hv]

theorem RowOK_cons_of_not_visible (hv : visible v f = false) {fs : List Fld} {vals : List Nat} :
    RowOK v (f :: fs) vals ↔ RowOK v fs vals := by
  simp [RowOK, hv]

end cons

theorem read_write (v : Ver) (L : List Fld) (vals : List Nat) (rest : Bytes) (h : RowOK v L vals) :
    readRow v L (writeRow v L vals ++ rest) = some (vals, rest) := by
  induction L generalizing vals with
  | nil => simp [RowOK] at h; simp [readRow, writeRow, h]
  | cons f fs ih =>
    cases hv : visible v f with
    | true =>
      obtain ⟨x, xs, rfl, hx, hxs⟩ := (RowOK_cons_of_visible hv).mp h
      have hl : (toBE f.width x).length = f.width := toBE_length _ _
      simp only [writeRow, hv, ↓reduceIte, List.append_assoc]
      refine (readRow_cons_eq_some hv).mpr ⟨by simp [hl], xs, ?_, ?_⟩
      · rw [List.drop_left' hl, ih xs hxs]
      · rw [List.take_left' hl, fromBE_toBE _ _ hx]
    | false =>
      simp [readRow, writeRow, hv, ih vals ((RowOK_cons_of_not_visible hv).mp h)]

theorem write_read (v : Ver) (L : List Fld) (bs : Bytes) (vals : List Nat) (rest : Bytes)
    (h : readRow v L bs = some (vals, rest)) :
    writeRow v L vals ++ rest = bs ∧ RowOK v L vals := by
  induction L generalizing bs vals with
  | nil => simp [readRow] at h; simp [writeRow, RowOK, h]
  | cons f fs ih =>
    cases hv : visible v f with
    | true =>
      obtain ⟨hlen, vals', heq, rfl⟩ := (readRow_cons_eq_some hv).mp h
      obtain ⟨h1, h2⟩ := ih _ _ heq
      have hw : (bs.take f.width).length = f.width := List.length_take_of_le hlen
      constructor
      · have := toBE_fromBE (bs.take f.width)
        rw [hw] at this
        simp only [writeRow, hv, ↓reduceIte, List.append_assoc, h1, this, List.take_append_drop]
      · refine (RowOK_cons_of_visible hv).mpr ⟨_, _, rfl, ?_, h2⟩
        have := fromBE_lt (bs.take f.width)
        rwa [hw] at this
    | false =>
      rw [readRow_cons_of_not_visible hv] at h
      obtain ⟨h1, h2⟩ := ih _ _ h
      exact ⟨by simp [writeRow, hv, h1], (RowOK_cons_of_not_visible hv).mpr h2⟩

theorem writeRow_length (v : Ver) (L : List Fld) (vals : List Nat) (h : RowOK v L vals) :
    (writeRow v L vals).length = rowSize v L := by
  induction L generalizing vals with
  | nil => simp [writeRow, rowSize]
  | cons f fs ih =>
    cases hv : visible v f with
    | true =>
      obtain ⟨x, xs, rfl, _, hxs⟩ := (RowOK_cons_of_visible hv).mp h
      simp [writeRow, rowSize, hv, toBE_length, ih xs hxs]
    | false =>
      simp [writeRow, rowSize, hv, ih vals ((RowOK_cons_of_not_visible hv).mp h)]

theorem readRow_extra (v : Ver) : ∀ (L : List Fld) (bs extra : Bytes) (vals : List Nat) (rest : Bytes),
    readRow v L bs = some (vals, rest) → readRow v L (bs ++ extra) = some (vals, rest ++ extra) := by
  intro L bs extra vals rest h
  obtain ⟨rfl, hok⟩ := write_read v L bs vals rest h
  rw [List.append_assoc]
  exact read_write v L vals (rest ++ extra) hok

/-- a payload at least as long as the row is always readable, and exactly `rowSize` bytes of it are consumed (why longer
    payloads of newer versions do not disturb known fields; C08 itself rests on `readRow_extra`) -/
theorem readRow_ok (v : Ver) (L : List Fld) (bs : Bytes) (h : rowSize v L ≤ bs.length) :
    ∃ vals, readRow v L bs = some (vals, bs.drop (rowSize v L)) := by
  induction L generalizing bs with
  | nil => exact ⟨[], by simp [readRow, rowSize]⟩
  | cons f fs ih =>
    cases hv : visible v f with
    | true =>
      simp only [rowSize, hv, ↓reduceIte] at h ⊢
      have hwidth : f.width ≤ bs.length := by omega
      have hrest : rowSize v fs ≤ (bs.drop f.width).length := by
        rw [List.length_drop]
        omega
      obtain ⟨vals, hvals⟩ := ih (bs.drop f.width) hrest
      rw [List.drop_drop] at hvals
      exact ⟨_, (readRow_cons_eq_some hv).mpr ⟨hwidth, vals, hvals, rfl⟩⟩
    | false =>
      simp only [rowSize, hv, Bool.false_eq_true, ↓reduceIte, Nat.zero_add] at h ⊢
      rw [readRow_cons_of_not_visible hv]
      exact ih bs h

/-! ### offsets: with monotone gates, a visible field sits at its constant spec offset -/

def leqGate (a b : Nat × Nat) : Bool := decide (a.1 < b.1) || (a.1 == b.1 && decide (a.2 ≤ b.2))

/-- decidable check on a table: every gate of a field is implied by some gate of the next field -/
def gatesMonotone : List Fld → Bool
  | [] => true
  | [_] => true
  | a :: b :: t => a.gates.all (fun g => b.gates.any (fun g' => leqGate g g')) && gatesMonotone (b :: t)

theorem gte_of_leqGate (v : Ver) {a b : Nat × Nat} (h : leqGate a b = true) (hb : v.gte b.1 b.2 = true) :
    v.gte a.1 a.2 = true := by
  apply Ver.gte_trans v b.1 b.2 a.1 a.2 _ hb
  unfold leqGate at h; simp at h; omega

theorem visible_of_next (v : Ver) (a b : Fld)
    (h : a.gates.all (fun g => b.gates.any (fun g' => leqGate g g')) = true) (hb : visible v b = true) : visible v a = true := by
  unfold visible at *
  rw [List.all_eq_true] at *
  intro g hg
  obtain ⟨g', hg', hle⟩ := List.any_eq_true.mp (h g hg)
  exact gte_of_leqGate v hle (hb g' hg')

/-- static prefix sums of widths = the spec's absolute offsets -/
def staticOffsets : List Fld → Nat → List Nat
  | [], _ => []
  | f :: fs, acc => acc :: staticOffsets fs (acc + f.width)

theorem gatesMonotone_tail (f : Fld) (fs : List Fld) (hm : gatesMonotone (f :: fs) = true) : gatesMonotone fs = true := by
  cases fs with
  | nil => rfl
  | cons b t => simp only [gatesMonotone, Bool.and_eq_true] at hm; exact hm.2

/-- under monotone gates the visible fields are a prefix of the table: nothing is visible behind an invisible field -/
theorem invisible_tail (v : Ver) (a : Fld) (t : List Fld) (hm : gatesMonotone (a :: t) = true) (ha : visible v a = false) :
    ∀ f ∈ a :: t, visible v f = false := by
  induction t generalizing a with
  | nil => simpa using ha
  | cons b t ih =>
    have hb : visible v b = false := by
      simp only [gatesMonotone, Bool.and_eq_true] at hm
      cases hvb : visible v b with
      | false => rfl
      | true => rw [visible_of_next v a b hm.1 hvb] at ha; cases ha
    intro f hf
    rcases List.mem_cons.mp hf with rfl | hf
    · exact ha
    · exact ih b (gatesMonotone_tail a _ hm) hb f hf

theorem readRow_invisible (v : Ver) (L : List Fld) (bs : Bytes) (h : ∀ f ∈ L, visible v f = false) :
    readRow v L bs = some ([], bs) := by
  induction L with
  | nil => rfl
  | cons f fs ih => rw [readRow_cons_of_not_visible (h f (by simp)), ih (fun g hg => h g (by simp [hg]))]

theorem staticOffsets_length (L : List Fld) (base : Nat) : (staticOffsets L base).length = L.length := by
  induction L generalizing base with
  | nil => rfl
  | cons f fs ih => simp [staticOffsets, ih]

/-- C03 core: the k-th field, when visible, is the big-endian value of the bytes at its static offset,
    and it is the k-th value read (no earlier field is skipped); when it is not visible the row ends before it. -/
theorem readRow_field (v : Ver) (L : List Fld) (hm : gatesMonotone L = true) (payload : Bytes) (base : Nat)
    (vals : List Nat) (rest : Bytes) (h : readRow v L (payload.drop base) = some (vals, rest))
    (k : Nat) (hk : k < L.length) (off : Nat) (hoff : (staticOffsets L base)[k]? = some off) :
    vals[k]? = if visible v L[k] then some (fromBE ((payload.drop off).take L[k].width)) else none := by
  induction L generalizing base vals k with
  | nil => simp at hk
  | cons f fs ih =>
    cases hv : visible v f with
    | false =>
      have hinv := invisible_tail v f fs hm hv
      rw [readRow_invisible v _ _ hinv] at h
      cases h
      simp [hinv _ (List.getElem_mem hk)]
    | true =>
      obtain ⟨_, vals', heq, rfl⟩ := (readRow_cons_eq_some hv).mp h
      cases k with
      | zero => cases hoff; simp [hv]
      | succ k' =>
        rw [List.drop_drop] at heq
        exact ih (gatesMonotone_tail f fs hm) (base + f.width) vals' heq k' (by simpa using hk) hoff

theorem readRow_count (v : Ver) (L : List Fld) (bs : Bytes) (vals : List Nat) (rest : Bytes)
    (h : readRow v L bs = some (vals, rest)) : vals.length = (L.filter (visible v)).length := by
  induction L generalizing bs vals with
  | nil => simp [readRow] at h; simp [h]
  | cons f fs ih =>
    cases hv : visible v f with
    | true =>
      obtain ⟨_, vals', heq, rfl⟩ := (readRow_cons_eq_some hv).mp h
      simp [hv, ih _ _ heq]
    | false =>
      rw [readRow_cons_of_not_visible hv] at h
      simp [hv, ih _ _ h]

#print axioms readRow_field
end Peppi
