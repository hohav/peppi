import Peppi.UbjsonProof
/-! C16, both directions in one statement each, and injectivity of the byte layout on well-formed trees. -/
namespace Peppi

/-- **write then read**: the same tree comes back, key order included, and the reader stops right behind the brace -/
theorem C16_write_read (utf8 : Bytes → Bool) (m : KVs) (rest : Bytes) (h : KVs.WF utf8 1 m) :
    ∃ bs, writeMap m = .ok bs ∧ readMap utf8 (bs ++ 0x7d :: rest) = .ok (m, rest) :=
  ⟨encKVs m, writeMap_enc utf8 m 1 h, readMap_enc utf8 m rest h⟩

/-- **read then write**: on the bytes of a well-formed map the reader's tree is written back as exactly those bytes -/
theorem C16_read_write (utf8 : Bytes → Bool) (m : KVs) (rest : Bytes) (h : KVs.WF utf8 1 m) :
    ∃ t r, readMap utf8 (encKVs m ++ 0x7d :: rest) = .ok (t, r) ∧ r = rest ∧ writeMap t = .ok (encKVs m) :=
  ⟨m, rest, readMap_enc utf8 m rest h, rfl, writeMap_enc utf8 m 1 h⟩

/-- nothing about a tree is lost in the file -/
theorem encKVs_inj (utf8 : Bytes → Bool) (m1 m2 : KVs) (h1 : KVs.WF utf8 1 m1) (h2 : KVs.WF utf8 1 m2)
    (h : encKVs m1 = encKVs m2) : m1 = m2 := by
  have r1 := readMap_enc utf8 m1 [] h1
  have r2 := readMap_enc utf8 m2 [] h2
  rw [h, r2] at r1
  have := Res.ok.inj r1
  exact (Prod.mk.inj this).1.symm

/-- non-vacuity: `{"b": "x", "a": {"n": -1}}` (keys out of alphabetical order, nested map, negative integer) is well formed -/
example : KVs.WF (fun _ => true) 1
    (.cons [0x62] (.str [0x78]) (.cons [0x61] (.map (.cons [0x6e] (.int (-1)) .nil)) .nil)) := by
  simp [KVs.WF, Tree.WF, KVs.hasKey, MAX_DEPTH]
end Peppi
