/-! `format_hash`: `format!("xxh3:{:016x}", digest)` — model and its shape theorems (C11). -/
namespace Peppi

def hexDigit (n : Nat) : Char := if n < 10 then Char.ofNat (48 + n) else Char.ofNat (87 + n)

/-- `n` as exactly `k` lower-case hex digits, most significant first (the value is taken modulo 16^k) -/
def hexN : Nat → Nat → List Char
  | 0, _ => []
  | k+1, n => hexN k (n / 16) ++ [hexDigit (n % 16)]

/-- `format_hash` on a 64-bit digest -/
def formatHash (digest : Nat) : List Char := "xxh3:".toList ++ hexN 16 digest

theorem hexN_length (k n : Nat) : (hexN k n).length = k := by
  induction k generalizing n with
  | zero => rfl
  | succ k ih => simp [hexN, ih]

/-- 21 characters: the prefix and 16 digits, zero-padded -/
theorem formatHash_length (d : Nat) : (formatHash d).length = 21 := by
  simp [formatHash, hexN_length]

def isLowerHex (c : Char) : Bool := (c.toNat ≥ 48 && c.toNat ≤ 57) || (c.toNat ≥ 97 && c.toNat ≤ 102)

theorem hexDigit_lower : ∀ n, n < 16 → isLowerHex (hexDigit n) = true := by decide

theorem hexN_lower (k n : Nat) : ∀ c ∈ hexN k n, isLowerHex c = true := by
  induction k generalizing n with
  | zero => intro c hc; simp [hexN] at hc
  | succ k ih =>
    intro c hc
    simp only [hexN, List.mem_append, List.mem_singleton] at hc
    rcases hc with hc | rfl
    · exact ih _ c hc
    · exact hexDigit_lower _ (Nat.mod_lt _ (by decide))

theorem formatHash_prefix (d : Nat) : (formatHash d).take 5 = "xxh3:".toList := by
  simp [formatHash]

def hexDigitVal (c : Char) : Nat := if c.toNat ≤ 57 then c.toNat - 48 else c.toNat - 87

def hexVal (cs : List Char) : Nat := cs.foldl (fun a c => a * 16 + hexDigitVal c) 0

theorem hexDigitVal_hexDigit : ∀ n, n < 16 → hexDigitVal (hexDigit n) = n := by decide

theorem hexVal_hexN (k n : Nat) (h : n < 16 ^ k) : hexVal (hexN k n) = n := by
  induction k generalizing n with
  | zero => simp at h; subst h; rfl
  | succ k ih =>
    have hq : n / 16 < 16 ^ k := by
      rw [Nat.div_lt_iff_lt_mul (by decide)]; rw [Nat.pow_succ] at h; exact h
    simp only [hexN, hexVal, List.foldl_append, List.foldl_cons, List.foldl_nil]
    have := ih (n / 16) hq
    simp only [hexVal] at this
    rw [this, hexDigitVal_hexDigit _ (Nat.mod_lt _ (by decide))]
    exact Nat.div_add_mod' n 16

/-- distinct 64-bit digests have distinct renderings -/
theorem formatHash_inj (a b : Nat) (ha : a < 2 ^ 64) (hb : b < 2 ^ 64) (h : formatHash a = formatHash b) : a = b := by
  have h16 : (2:Nat) ^ 64 = 16 ^ 16 := by decide
  rw [h16] at ha hb
  have : hexN 16 a = hexN 16 b := by
    simp only [formatHash] at h
    exact List.append_cancel_left h
  rw [← hexVal_hexN 16 a ha, ← hexVal_hexN 16 b hb, this]

#print axioms formatHash_inj
end Peppi
