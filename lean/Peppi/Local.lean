import Peppi.Read
/-! Locality of stream parsers built from exact-length reads: the basis of the truncation theorem (C07). -/
namespace Peppi
open Extracted

/-- `p` consumes a prefix `used` of its input, does not look beyond it, and fails on every proper prefix of it. -/
def Rd.Local {α} (p : Rd α) : Prop :=
  ∀ bs a rest, p bs = .ok (a, rest) →
    ∃ used, bs = used ++ rest ∧
      (∀ ext, p (used ++ ext) = .ok (a, ext)) ∧
      (∀ pre, pre <+: used → pre.length < used.length → ∃ e, p pre = .err e)

theorem Rd.Local.le {α} {p : Rd α} (hl : Rd.Local p) {bs : Bytes} {a : α} {rest : Bytes} (h : p bs = .ok (a, rest)) :
    rest.length ≤ bs.length := by
  obtain ⟨used, rfl, _⟩ := hl bs a rest h
  rw [List.length_append]
  exact Nat.le_add_left _ _

theorem Rd.Local.lt {α} {p : Rd α} (hl : Rd.Local p) (h0 : ∀ a, p [] ≠ .ok (a, [])) {bs : Bytes} {a : α} {rest : Bytes}
    (h : p bs = .ok (a, rest)) : rest.length < bs.length := by
  obtain ⟨used, rfl, hext, _⟩ := hl bs a rest h
  cases used with
  | nil => exact absurd (hext []) (h0 a)
  | cons b t =>
    rw [List.cons_append, List.length_cons, List.length_append]
    exact Nat.lt_succ_of_le (Nat.le_add_left _ _)

theorem Rd.local_lift {α} (r : Res α) : Rd.Local (Rd.lift r) := by
  intro bs a rest h
  cases r with
  | ok x =>
    cases h
    exact ⟨[], rfl, fun _ => rfl, fun pre _ hl => absurd hl (Nat.not_lt_zero _)⟩
  | err e => cases h
  | panic s => cases h

theorem Rd.local_pure {α} (a : α) : Rd.Local (pure a : Rd α) := Rd.local_lift (.ok a)

theorem Rd.local_fail {α} (e : String) : Rd.Local (Rd.fail e : Rd α) := Rd.local_lift (.err e)

theorem Rd.local_take (n : Nat) : Rd.Local (Rd.take n) := by
  intro bs a rest h
  simp only [Rd.take] at h
  split at h
  · cases h
  · rename_i hlen
    cases h
    have hl : (bs.take n).length = n := List.length_take_of_le (Nat.le_of_not_lt hlen)
    refine ⟨bs.take n, (List.take_append_drop n bs).symm, fun ext => ?_, fun pre _ hlt => ⟨"eof", ?_⟩⟩
    · have : ¬ (bs.take n ++ ext).length < n := by
        rw [List.length_append, hl]
        exact Nat.not_lt.2 (Nat.le_add_right _ _)
      simp only [Rd.take, this, ↓reduceIte, List.take_left' hl, List.drop_left' hl]
    · exact if_pos (hl ▸ hlt)

theorem Rd.local_u8 : Rd.Local Rd.u8 := by
  intro bs a rest h
  cases bs with
  | nil => simp [Rd.u8] at h
  | cons b t =>
    simp only [Rd.u8, Res.ok.injEq, Prod.mk.injEq] at h
    obtain ⟨rfl, rfl⟩ := h
    refine ⟨[b], rfl, fun ext => rfl, ?_⟩
    intro pre _ hl
    have : pre = [] := by cases pre with | nil => rfl | cons _ _ => simp at hl
    subst this
    exact ⟨"eof", rfl⟩

theorem prefix_append_cases {α} (pre a b : List α) (h : pre <+: a ++ b) :
    (pre <+: a ∧ pre.length < a.length) ∨ ∃ pre', pre = a ++ pre' ∧ pre' <+: b := by
  rcases List.prefix_or_prefix_of_prefix h (List.prefix_append a b) with h1 | ⟨pre', rfl⟩
  · by_cases hl : pre.length < a.length
    · exact .inl ⟨h1, hl⟩
    · have hpa : pre = a := h1.eq_of_length_le (by omega)
      exact .inr ⟨[], by rw [List.append_nil, hpa], List.nil_prefix⟩
  · exact .inr ⟨pre', rfl, (List.prefix_append_right_inj a).1 h⟩

theorem Rd.local_bind {α β} (p : Rd α) (q : α → Rd β) (hp : Rd.Local p) (hq : ∀ a, Rd.Local (q a)) :
    Rd.Local (p >>= q) := by
  intro bs b rest h
  simp only [bind] at h
  cases hpb : p bs with
  | err e => simp [hpb] at h
  | panic s => simp [hpb] at h
  | ok ar =>
    obtain ⟨a, r1⟩ := ar
    simp only [hpb] at h
    obtain ⟨u1, hbs, hext1, hpre1⟩ := hp bs a r1 hpb
    obtain ⟨u2, hr1, hext2, hpre2⟩ := hq a r1 b rest h
    refine ⟨u1 ++ u2, by rw [hbs, hr1, List.append_assoc], ?_, ?_⟩
    · intro ext
      simp only [bind, List.append_assoc, hext1 (u2 ++ ext), hext2 ext]
    · intro pre hpfx hl
      rcases prefix_append_cases pre u1 u2 hpfx with ⟨h1, h2⟩ | ⟨pre', rfl, h2⟩
      · obtain ⟨e, he⟩ := hpre1 pre h1 h2
        exact ⟨e, by simp [bind, he]⟩
      · have hl2 : pre'.length < u2.length := by simp at hl; omega
        obtain ⟨e, he⟩ := hpre2 pre' h2 hl2
        exact ⟨e, by simp [bind, hext1 pre', he]⟩

theorem Rd.local_be (n : Nat) : Rd.Local (Rd.be n) := by
  unfold Rd.be
  exact Rd.local_bind _ _ (Rd.local_take n) (fun b => Rd.local_pure _)

theorem Rd.local_ite {α} (c : Prop) [Decidable c] (p q : Rd α) (hp : Rd.Local p) (hq : Rd.Local q) :
    Rd.Local (if c then p else q) := by
  split <;> assumption

theorem local_expectBytes (e : Bytes) : Rd.Local (expectBytes e) := by
  unfold expectBytes
  apply Rd.local_bind _ _ (Rd.local_take _)
  intro a
  apply Rd.local_ite
  · exact Rd.local_pure _
  · exact Rd.local_fail _

theorem local_parseHeader : Rd.Local parseHeader := by
  unfold parseHeader
  exact Rd.local_bind _ _ (local_expectBytes _) (fun _ => Rd.local_be 4)

theorem local_parsePayloads : Rd.Local parsePayloads := by
  unfold parsePayloads
  apply Rd.local_bind _ _ Rd.local_u8; intro code
  apply Rd.local_ite; · exact Rd.local_fail _
  apply Rd.local_bind _ _ Rd.local_u8; intro size
  apply Rd.local_ite; · exact Rd.local_fail _
  apply Rd.local_bind _ _ (Rd.local_take _); intro buf
  apply Rd.local_bind _ _ (Rd.local_lift _); intro sizes
  apply Rd.local_ite; · exact Rd.local_fail _
  apply Rd.local_ite; · exact Rd.local_fail _
  exact Rd.local_pure _

theorem local_parseGameStart (T sizes br) : Rd.Local (parseGameStart T sizes br) := by
  unfold parseGameStart
  apply Rd.local_bind _ _ Rd.local_u8; intro code
  split
  · exact Rd.local_fail _
  · apply Rd.local_bind _ _ (Rd.local_take _); intro buf
    apply Rd.local_ite
    · apply Rd.local_bind _ _ (Rd.local_lift _); intro s
      exact Rd.local_pure _
    · exact Rd.local_fail _

theorem local_parseStart (T : TextOracle) : Rd.Local (parseStart T) := by
  unfold parseStart
  apply Rd.local_bind _ _ local_parsePayloads; intro x
  obtain ⟨br, sizes⟩ := x
  apply Rd.local_bind _ _ (local_parseGameStart T sizes br); intro y
  obtain ⟨br2, start⟩ := y
  exact Rd.local_pure _

theorem local_parseEvent (ps : ParseState) : Rd.Local (parseEvent ps) := by
  unfold parseEvent
  apply Rd.local_bind _ _ Rd.local_u8; intro code
  split
  · exact Rd.local_fail _
  · rename_i size _
    apply Rd.local_bind _ _ (Rd.local_take _); intro buf
    apply Rd.local_bind
    · apply Rd.local_ite
      · apply Rd.local_bind _ _ (Rd.local_lift _); intro wst
        obtain ⟨w, st'⟩ := wst
        cases w <;> exact Rd.local_pure _
      · exact Rd.local_pure _
    intro x
    obtain ⟨c, b, st⟩ := x
    apply Rd.local_bind _ _ (Rd.local_lift _); intro st'
    exact Rd.local_pure _

#print axioms local_parsePayloads
theorem Rd.trunc_of_local {α} (p : Rd α) (hl : Rd.Local p) (x : Bytes) (a : α) (h : p x = .ok (a, []))
    (n : Nat) (hn : n < x.length) : ∃ e, p (x.take n) = .err e := by
  obtain ⟨used, hu, _, hpre⟩ := hl x a [] h
  rw [List.append_nil] at hu
  subst hu
  exact hpre _ (List.take_prefix _ _) (by rw [List.length_take_of_le (Nat.le_of_lt hn)]; exact hn)

end Peppi
