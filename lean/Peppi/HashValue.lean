import Peppi.Xxh3
import Peppi.Hash
import Peppi.Lemmas.Unified2
/-! C11 at the level of the value: the string in `Game::hash` is `format_hash` of the XXH3-64 (`Xxh3.lean`, an executable
    definition) of exactly the bytes the reader consumed.  The reader model reports how many leading bytes of the input the hasher
    has been fed (`hashedLen`; `readSlpS_frag`, ReadStream.lean, shows this is what the hashing wrapper sees under every
    fragmentation of the stream); the driver prints `Game.hashStr` for comparison with the real one. -/
namespace Peppi

/-- `Game::hash`: `Some("xxh3:" + 16 hex digits)` when hashing was requested, over the consumed prefix of the input -/
def Game.hashStr (g : Game) (input : Bytes) : Option (List Char) :=
  g.hashedLen.map fun n => formatHash (xxh3_64 (input.take n))

/-- **C11, value level, every version**: on the canonical file of any well-formed replay the hash string is
    `xxh3:` followed by the 16 lower-case hex digits of XXH3-64 of *the whole file*, and absent when not requested -/
theorem C11_value_any (T : TextOracle) (r : Replay) (s : Start) (gk : Option GeckoBlocks) (h : r.WFAny T s gk) (hash : Bool) :
    ∃ g, readSlp T { skipFrames := false, computeHash := hash } (r.encodeAny s.version (portOccupancy s) gk) = .ok g ∧
      g.hashStr (r.encodeAny s.version (portOccupancy s) gk) =
        (if hash then some (formatHash (xxh3_64 (r.encodeAny s.version (portOccupancy s) gk))) else none) := by
  obtain ⟨g, hg, hl⟩ := C11_range_any T r s gk h hash
  refine ⟨g, hg, ?_⟩
  cases hash
  · simp [Game.hashStr, hl]
  · simp only [Game.hashStr, hl, if_true, Option.map_some, List.take_length]

/-- two files whose hash strings agree have the same XXH3-64 value (the rendering loses nothing) -/
theorem hashStr_inj (a b : Bytes) (h : formatHash (xxh3_64 a) = formatHash (xxh3_64 b)) : xxh3_64 a = xxh3_64 b :=
  formatHash_inj _ _ (xxh3_64_lt a) (xxh3_64_lt b) h

#print axioms C11_value_any
end Peppi
