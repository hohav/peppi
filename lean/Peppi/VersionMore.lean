import Peppi.VersionProof
/-! C20, consequences: the gates order versions totally on (major, minor); `Display` is injective; what `from_str` accepts
    is a `u8` triple, and `parse ∘ display ∘ parse = parse` (`display ∘ parse` is not the identity: `+3.016.0`). -/
namespace Peppi

theorem Ver.gte_self (v : Ver) : v.gte v.major v.minor = true := by
  rw [Ver.gte_iff]; omega

theorem Ver.gte_total (v w : Ver) : v.gte w.major w.minor = true ∨ w.gte v.major v.minor = true := by
  rw [Ver.gte_iff, Ver.gte_iff]; omega

/-- two versions that pass each other's gate agree on major and minor (and then pass exactly the same gates) -/
theorem Ver.gte_antisymm (v w : Ver) (h1 : v.gte w.major w.minor = true) (h2 : w.gte v.major v.minor = true) :
    v.major = w.major ∧ v.minor = w.minor ∧ ∀ M m, v.gte M m = w.gte M m := by
  rw [Ver.gte_iff] at h1 h2
  have h : v.major = w.major ∧ v.minor = w.minor := by omega
  refine ⟨h.1, h.2, ?_⟩
  intro M m; unfold Ver.gte; rw [h.1, h.2]

theorem Ver.lt_mono (v w : Ver) (M m : Nat) (h : v.major < w.major ∨ (v.major = w.major ∧ v.minor ≤ w.minor))
    (hw : w.lt M m = true) : v.lt M m = true := by
  rw [Ver.lt_iff] at *; exact fun hv => hw (lex_trans hv h)

theorem Ver.parse_wf (s : List Char) (v : Ver) (h : Ver.parse s = .ok v) : v.WF := by
  obtain ⟨a, b, c, _, _, _, _, la, lb, lc⟩ := (Ver.parse_iff s v).mp h
  obtain ⟨_, _, _, _, _, ha⟩ := la
  obtain ⟨_, _, _, _, _, hb⟩ := lb
  obtain ⟨_, _, _, _, _, hc⟩ := lc
  exact ⟨Nat.lt_succ_of_le ha, Nat.lt_succ_of_le hb, Nat.lt_succ_of_le hc⟩

theorem Ver.display_inj (v w : Ver) (hv : v.WF) (hw : w.WF) (h : v.display = w.display) : v = w := by
  have h1 := Ver.parse_display v hv
  have h2 := Ver.parse_display w hw
  rw [h, h2] at h1
  exact (Res.ok.inj h1).symm

theorem Ver.parse_display_parse (s : List Char) (v : Ver) (h : Ver.parse s = .ok v) : Ver.parse v.display = .ok v :=
  Ver.parse_display v (Ver.parse_wf s v h)

/-- a sign and leading zeros are accepted and not reproduced -/
example : Ver.parse "+3.016.0".toList = .ok ⟨3, 16, 0⟩ ∧ Ver.display ⟨3, 16, 0⟩ = "3.16.0".toList := by decide +kernel

/-- boundary of `u8`: 255 is accepted, 256 and a fourth component are not -/
example : Ver.parse "255.255.255".toList = .ok ⟨255, 255, 255⟩ := by decide +kernel
example : Ver.parse "3.16.256".toList = .err "couldn't parse integer" := by decide +kernel
example : Ver.parse "3.16.0.0".toList = .err "invalid version" := by decide +kernel

end Peppi
