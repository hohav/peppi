import Peppi.Lemmas.ArrowFrame
/-! A self-delimiting byte encoding of Arrow frame trees (`AFrame`), with its decoder and the round-trip law — used only to
    show that the laws asked of the external Arrow IPC codec (`Codec.frames_rt` with `norm := normF`) are satisfiable at the
    type the end-to-end theorem `C02_bytes` needs. -/
namespace Peppi

/-- a serializer: encoder, decoder that returns the rest, and the law that decoding an encoding gives the value back -/
structure Ser (α : Type) where
  enc : α → Bytes
  dec : Bytes → Option (α × Bytes)
  rt : ∀ x rest, dec (enc x ++ rest) = some (x, rest)

/-- unary naturals: `n` ones and a zero -/
def decUn : Bytes → Option (Nat × Bytes)
  | [] => none
  | 0 :: r => some (0, r)
  | _ :: r => (decUn r).map fun p => (p.1 + 1, p.2)

def Ser.nat : Ser Nat where
  enc n := List.replicate n 1 ++ [0]
  dec := decUn
  rt := by
    intro n rest
    induction n with
    | zero => rfl
    | succ k ih =>
      have : List.replicate (k + 1) (1 : UInt8) ++ [0] ++ rest = 1 :: (List.replicate k 1 ++ [0] ++ rest) := by
        simp [List.replicate_succ]
      rw [this]
      have h1 : decUn (1 :: (List.replicate k 1 ++ [0] ++ rest)) = (decUn (List.replicate k 1 ++ [0] ++ rest)).map fun p => (p.1 + 1, p.2) := by
        rw [decUn]; simp
      rw [h1, ih]; rfl

def Ser.bool : Ser Bool where
  enc b := [if b then 1 else 0]
  dec bs := match bs with | [] => none | b :: r => some (b != 0, r)
  rt := by intro b rest; cases b <;> rfl

def Ser.prod {α β : Type} (a : Ser α) (b : Ser β) : Ser (α × β) where
  enc p := a.enc p.1 ++ b.enc p.2
  dec bs := match a.dec bs with
    | none => none
    | some (x, r) => match b.dec r with
      | none => none
      | some (y, r') => some ((x, y), r')
  rt := by
    intro p rest
    simp only [List.append_assoc, a.rt, b.rt]

/-- transport along a pair of functions with `g ∘ f = id` -/
def Ser.iso {α β : Type} (s : Ser α) (f : β → α) (g : α → β) (h : ∀ x, g (f x) = x) : Ser β where
  enc x := s.enc (f x)
  dec bs := (s.dec bs).map fun p => (g p.1, p.2)
  rt := by intro x rest; simp only [s.rt, Option.map_some, h]

def Ser.int : Ser Int :=
  (Ser.prod Ser.bool Ser.nat).iso (fun i => (decide (i < 0), i.natAbs)) (fun p => if p.1 then -(p.2 : Int) else (p.2 : Int)) (by
    intro i
    by_cases h : i < 0
    · simp only [h, decide_true, ↓reduceIte]; omega
    · simp only [h, decide_false, Bool.false_eq_true, ↓reduceIte]; omega)

def Ser.option {α : Type} (s : Ser α) : Ser (Option α) where
  enc o := match o with | none => [0] | some x => 1 :: s.enc x
  dec bs := match bs with
    | [] => none
    | 0 :: r => some (none, r)
    | _ :: r => (s.dec r).map fun p => (some p.1, p.2)
  rt := by
    intro o rest
    cases o with
    | none => rfl
    | some x =>
      -- the goal, with the encoder's `match` and the append computed
      show (match (1 : UInt8) :: (s.enc x ++ rest) with
        | [] => none
        | 0 :: r => some (none, r)
        | _ :: r => (s.dec r).map fun (p : α × Bytes) => (some p.1, p.2)) = _
      simp [s.rt]

def decN {α : Type} (s : Ser α) : Nat → Bytes → Option (List α × Bytes)
  | 0, bs => some ([], bs)
  | n + 1, bs => match s.dec bs with
    | none => none
    | some (x, r) => match decN s n r with
      | none => none
      | some (xs, r') => some (x :: xs, r')

theorem decN_enc {α : Type} (s : Ser α) (l : List α) (rest : Bytes) :
    decN s l.length (l.flatMap s.enc ++ rest) = some (l, rest) := by
  induction l with
  | nil => rfl
  | cons x t ih =>
    simp only [List.length_cons, List.flatMap_cons, List.append_assoc, decN, s.rt, ih]

def Ser.list {α : Type} (s : Ser α) : Ser (List α) where
  enc l := Ser.nat.enc l.length ++ l.flatMap s.enc
  dec bs := match Ser.nat.dec bs with
    | none => none
    | some (n, r) => decN s n r
  rt := by
    intro l rest
    simp only [List.append_assoc, Ser.nat.rt, decN_enc]

def Ser.aStruct : Ser AStruct :=
  (Ser.prod (Ser.list (Ser.list Ser.nat)) (Ser.prod (Ser.option (Ser.list Ser.bool)) Ser.nat)).iso
    (fun a => (a.cols, a.valid, a.len)) (fun p => ⟨p.1, p.2.1, p.2.2⟩) (by intro a; rfl)

def Ser.aData : Ser AData :=
  (Ser.prod Ser.aStruct (Ser.prod Ser.aStruct (Ser.option (Ser.list Ser.bool)))).iso
    (fun a => (a.pre, a.post, a.valid)) (fun p => ⟨p.1, p.2.1, p.2.2⟩) (by intro a; rfl)

def Ser.aPort : Ser APort :=
  (Ser.prod Ser.nat (Ser.prod Ser.aData (Ser.option Ser.aData))).iso
    (fun a => (a.port, a.leader, a.follower)) (fun p => ⟨p.1, p.2.1, p.2.2⟩) (by intro a; rfl)

def Ser.aFrame : Ser AFrame :=
  (Ser.prod (Ser.list Ser.int) (Ser.prod (Ser.list Ser.aPort) (Ser.prod (Ser.option Ser.aStruct) (Ser.prod (Ser.option Ser.aStruct)
    (Ser.option (Ser.prod (Ser.list Ser.nat) Ser.aStruct)))))).iso
    (fun a => (a.id, a.ports, a.start, a.fend, a.item)) (fun p => ⟨p.1, p.2.1, p.2.2.1, p.2.2.2.1, p.2.2.2.2⟩) (by intro a; rfl)

/-- the length of a serializer's output as a function of the value, so that a size bound on a concrete value is an
    arithmetic evaluation and the bytes need not be built -/
structure Ser.Size {α : Type} (s : Ser α) where
  sz : α → Nat
  ok : ∀ x, (s.enc x).length = sz x

namespace Ser.Size
def nat : Ser.Size Ser.nat := ⟨(· + 1), fun n => by simp [Ser.nat]⟩
def bool : Ser.Size Ser.bool := ⟨fun _ => 1, fun _ => rfl⟩
def prod {α β : Type} {a : Ser α} {b : Ser β} (A : a.Size) (B : b.Size) : (Ser.prod a b).Size :=
  ⟨fun p => A.sz p.1 + B.sz p.2, fun p => by simp [Ser.prod, A.ok, B.ok]⟩
def iso {α β : Type} {s : Ser α} (S : s.Size) (f : β → α) (g : α → β) (h : ∀ x, g (f x) = x) : (s.iso f g h).Size :=
  ⟨fun x => S.sz (f x), fun x => S.ok (f x)⟩
def option {α : Type} {s : Ser α} (S : s.Size) : (Ser.option s).Size :=
  ⟨fun o => match o with | none => 1 | some x => S.sz x + 1, fun o => by cases o <;> simp [Ser.option, S.ok]⟩
def list {α : Type} {s : Ser α} (S : s.Size) : (Ser.list s).Size :=
  ⟨fun l => l.length + 1 + (l.map S.sz).sum, fun l => by
    simp only [Ser.list, Ser.nat, List.length_append, List.length_replicate, List.length_cons, List.length_nil, List.length_flatMap, S.ok]⟩
def int : Ser.Size Ser.int := (prod bool nat).iso _ _ _
def aStruct : Ser.Size Ser.aStruct := (prod (list (list nat)) (prod (option (list bool)) nat)).iso _ _ _
def aData : Ser.Size Ser.aData := (prod aStruct (prod aStruct (option (list bool)))).iso _ _ _
def aPort : Ser.Size Ser.aPort := (prod nat (prod aData (option aData))).iso _ _ _
def aFrame : Ser.Size Ser.aFrame :=
  (prod (list int) (prod (list aPort) (prod (option aStruct) (prod (option aStruct) (option (prod (list nat) aStruct)))))).iso _ _ _
end Ser.Size

#print axioms Ser.aFrame
end Peppi
