import Peppi.RollbacksProof
/-! C15, last sentence: in either mode exactly one row per distinct frame id is unmarked, and none is marked without repeats. -/
namespace Peppi

/-! What follows from "row `i` is marked iff some row `j` before it (in the sense `R j i`) holds the same id", for either
    mode at once: `R j i` is `j < i` for keep-first and `i < j` for keep-last. -/
section Marked
variable {ids : List Int} {m : List Bool} {R : Nat → Nat → Prop} (hl : m.length = ids.length)
  (hs : ∀ i (hi : i < ids.length), m[i]? = some true ↔ ∃ j, ∃ hj : j < ids.length, R j i ∧ ids[j] = ids[i])
include hl hs

theorem unmarked_iff {i : Nat} (hi : i < ids.length) :
    m[i]? = some false ↔ ∀ j, ∀ hj : j < ids.length, R j i → ids[j] ≠ ids[i] := by
  have := hs i hi
  rw [List.getElem?_eq_getElem (hl ▸ hi), Option.some.injEq] at this ⊢
  rw [← Bool.not_eq_true, this]
  exact ⟨fun hn j hj hr e => hn ⟨j, hj, hr, e⟩, fun hn ⟨j, hj, hr, e⟩ => hn j hj hr e⟩

theorem unmarked_of_nodup (hirr : ∀ i, ¬ R i i) (hnd : ids.Nodup) : ∀ b ∈ m, b = false := by
  intro b hb
  obtain ⟨i, hi, rfl⟩ := List.getElem_of_mem hb
  have := (unmarked_iff hl hs (hl ▸ hi)).mpr fun j hj hr e => by
    obtain rfl := (List.getElem_inj hnd).mp e; exact hirr j hr
  rwa [List.getElem?_eq_getElem hi, Option.some.injEq] at this

/-- among the rows holding `x`, the `R`-least one (`hmin`: no row before it holds `x`) is unmarked, and no other row holding `x` is -/
theorem unmarked_unique (htri : ∀ i j, R i j ∨ i = j ∨ R j i) {x : Int} {i : Nat} (hi : i < ids.length)
    (hix : ids[i] = x) (hmin : ∀ j, ∀ hj : j < ids.length, R j i → ids[j] ≠ x) :
    (∃ hi : i < ids.length, ids[i] = x ∧ m[i]? = some false) ∧
      ∀ k, ∀ hk : k < ids.length, ids[k] = x → m[k]? = some false → k = i := by
  refine ⟨⟨hi, hix, (unmarked_iff hl hs hi).mpr (hix ▸ hmin)⟩, fun k hk hkx hkf => ?_⟩
  rcases htri k i with hr | he | hr
  · exact absurd hkx (hmin k hk hr)
  · exact he
  · exact absurd (hix.trans hkx.symm) ((unmarked_iff hl hs hk).mp hkf i hi hr)

end Marked

/-- `C15_first` in the shape of `C15_last`, so that `unmarked_*` apply to it with `R j i := j < i`. -/
theorem C15_first' (ids : List Int) (h : ∀ x ∈ ids, FIRST_INDEX ≤ x) :
    ∃ m, rollbacks .exceptFirst ids = .ok m ∧ m.length = ids.length ∧
      ∀ i (hi : i < ids.length), (m[i]? = some true ↔ ∃ j, ∃ hj : j < ids.length, j < i ∧ ids[j] = ids[i]) := by
  obtain ⟨m, hm, hl, hs⟩ := C15_first ids h
  exact ⟨m, hm, hl, fun i hi => (hs i hi).trans
    ⟨fun ⟨j, hj, e⟩ => ⟨j, Nat.lt_trans hj hi, hj, e⟩, fun ⟨j, _, hj, e⟩ => ⟨j, hj, e⟩⟩⟩

/-- **C15, corollary**: a game without repeated frame ids yields an all-false mask (keep-first mode) -/
theorem C15_first_nodup (ids : List Int) (h : ∀ x ∈ ids, FIRST_INDEX ≤ x) (hnd : ids.Nodup) :
    ∃ m, rollbacks .exceptFirst ids = .ok m ∧ m.length = ids.length ∧ ∀ b ∈ m, b = false := by
  obtain ⟨m, hm, hl, hs⟩ := C15_first' ids h
  exact ⟨m, hm, hl, unmarked_of_nodup hl hs (fun i => Nat.lt_irrefl i) hnd⟩

/-- **C15, corollary**: a game without repeated frame ids yields an all-false mask in keep-last mode too -/
theorem C15_last_nodup (ids : List Int) (h : ∀ x ∈ ids, FIRST_INDEX ≤ x) (hnd : ids.Nodup) :
    ∃ m, rollbacks .exceptLast ids = .ok m ∧ m.length = ids.length ∧ ∀ b ∈ m, b = false := by
  obtain ⟨m, hm, hl, hs⟩ := C15_last ids h
  exact ⟨m, hm, hl, unmarked_of_nodup hl hs (fun i => Nat.lt_irrefl i) hnd⟩

/-- **C15, corollary**: in keep-first mode the first occurrence of every frame id is unmarked, so at least one row per
    distinct id survives de-duplication; by `C15_first` every later occurrence is marked: exactly one survives -/
theorem C15_first_keeps_first (ids : List Int) (h : ∀ x ∈ ids, FIRST_INDEX ≤ x) (i : Nat) (hi : i < ids.length)
    (hfirst : ∀ j, ∀ hj : j < i, ids[j] ≠ ids[i]) :
    ∃ m, rollbacks .exceptFirst ids = .ok m ∧ m[i]? = some false := by
  obtain ⟨m, hm, hl, hs⟩ := C15_first' ids h
  exact ⟨m, hm, (unmarked_iff hl hs hi).mpr fun j _ hji => hfirst j hji⟩

/-- **C15, corollary**: in keep-last mode the last occurrence of every frame id is unmarked -/
theorem C15_last_keeps_last (ids : List Int) (h : ∀ x ∈ ids, FIRST_INDEX ≤ x) (i : Nat) (hi : i < ids.length)
    (hlast : ∀ j, ∀ hj : j < ids.length, i < j → ids[j] ≠ ids[i]) :
    ∃ m, rollbacks .exceptLast ids = .ok m ∧ m[i]? = some false := by
  obtain ⟨m, hm, hl, hs⟩ := C15_last ids h
  exact ⟨m, hm, (unmarked_iff hl hs hi).mpr hlast⟩

theorem exists_first_index (ids : List Int) (x : Int) (hx : x ∈ ids) :
    ∃ i, ∃ hi : i < ids.length, ids[i] = x ∧ ∀ j, ∀ hj : j < i, ids[j] ≠ x :=
  ⟨ids.idxOf x, List.idxOf_lt_length_iff.mpr hx, List.getElem_idxOf _,
    fun j hj => by simpa using List.not_of_lt_findIdx (p := (· == x)) hj⟩

theorem exists_last_index (ids : List Int) (x : Int) (hx : x ∈ ids) :
    ∃ i, ∃ hi : i < ids.length, ids[i] = x ∧ ∀ j, ∀ hj : j < ids.length, i < j → ids[j] ≠ x := by
  obtain ⟨k, hk, hkx, hmin⟩ := exists_first_index ids.reverse x (List.mem_reverse.mpr hx)
  rw [List.length_reverse] at hk
  refine ⟨ids.length - 1 - k, by omega, by simpa using hkx, fun j hj hij => ?_⟩
  have := hmin (ids.length - 1 - j) (by omega)
  simpa only [List.getElem_reverse, show ids.length - 1 - (ids.length - 1 - j) = j by omega] using this

/-- **C15, "exactly one row per distinct frame id is unmarked" (keep-first)**: for every id that occurs there is one
    and only one row holding it whose mask entry is `false` (its first occurrence). -/
theorem C15_first_unique (ids : List Int) (h : ∀ x ∈ ids, FIRST_INDEX ≤ x) :
    ∃ m, rollbacks .exceptFirst ids = .ok m ∧ m.length = ids.length ∧
      ∀ x ∈ ids, ∃ i, (∃ hi : i < ids.length, ids[i] = x ∧ m[i]? = some false) ∧
        ∀ k, ∀ hk : k < ids.length, ids[k] = x → m[k]? = some false → k = i := by
  obtain ⟨m, hm, hl, hs⟩ := C15_first' ids h
  refine ⟨m, hm, hl, fun x hx => ?_⟩
  obtain ⟨i, hi, hix, hmin⟩ := exists_first_index ids x hx
  exact ⟨i, unmarked_unique hl hs (fun i j => Nat.lt_trichotomy i j) hi hix fun j _ hji => hmin j hji⟩

/-- **C15, "exactly one row per distinct frame id is unmarked" (keep-last)**: the one row holding the id whose mask
    entry is `false` is its last occurrence. -/
theorem C15_last_unique (ids : List Int) (h : ∀ x ∈ ids, FIRST_INDEX ≤ x) :
    ∃ m, rollbacks .exceptLast ids = .ok m ∧ m.length = ids.length ∧
      ∀ x ∈ ids, ∃ i, (∃ hi : i < ids.length, ids[i] = x ∧ m[i]? = some false) ∧
        ∀ k, ∀ hk : k < ids.length, ids[k] = x → m[k]? = some false → k = i := by
  obtain ⟨m, hm, hl, hs⟩ := C15_last ids h
  refine ⟨m, hm, hl, fun x hx => ?_⟩
  obtain ⟨i, hi, hix, hmax⟩ := exists_last_index ids x hx
  -- trichotomy for the mirrored order `R j i := i < j`
  have htri : ∀ i j : Nat, j < i ∨ i = j ∨ i < j := fun i j => by omega
  exact ⟨i, unmarked_unique hl hs htri hi hix hmax⟩

/-- non-vacuity: ids repeated more than twice, non-adjacent repeats, a repeat at the first and at the last row -/
example : rollbacks .exceptFirst [-123, -122, -123, -121, -122, -123] = .ok [false, false, true, false, true, true] := by decide
example : rollbacks .exceptLast [-123, -122, -123, -121, -122, -123] = .ok [true, true, true, false, false, false] := by decide

end Peppi
