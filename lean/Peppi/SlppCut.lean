import Peppi.TarCut
import Peppi.SlppBytes
import Peppi.PeppiJson
import Peppi.Lemmas.NoPanic
/-! **C07, `.slpp` half, byte level.**  The reader of `io/peppi/de.rs` over the lazy tar iterator (`tarScan`), and what it
    returns on *every prefix* of a written archive: an error, or — once the cut lies behind everything the reader consumes —
    the complete game.

    The external decoders enter with two more assumptions than the round trip needed (`CodecT`): they return (do not panic)
    on arbitrary bytes, and a prefix of a written `frames.arrow` decodes to nothing else than the frames that were written.
    Both are exercised on every cut of sample archives by the `pprefix` suite. -/
namespace Peppi

/-- the codec laws truncation needs -/
structure CodecT (μ φ : Type) extends Codec μ φ where
  peppi_np : ∀ b s, decPeppi b ≠ .panic s
  meta_np : ∀ b s, decMeta b ≠ .panic s
  /-- a prefix of the written Arrow stream never yields a different frame set -/
  frames_prefix : ∀ f n f', (decFrames ((encFrames f).take n)).1 = true → readArrowFrames (decFrames ((encFrames f).take n)).2 = .ok f' → f' = norm f

def classifyT {μ φ : Type} (C : Codec μ φ) : TItem → PEntry μ φ
  | .entry n b => classify C (n, b)
  | .broken => .broken

/-- `io::peppi::read` over the lazy iterator: total on every byte string -/
def slppReadL {μ φ : Type} (C : Codec μ φ) (T : TextOracle) (skip : Bool) (bs : Bytes) : Res (PGame μ φ) :=
  let r := tarScan (bs.length / 512 + 2) bs
  peppiRead T skip r.2 (r.1.map (classifyT C))

theorem peppiLoop_trailer {μ φ : Type} (T : TextOracle) (skip : Bool) : ∀ (es : List (PEntry μ φ)) (acc : PAcc μ),
    (∃ m, peppiLoop T skip false acc es = .err m) ∨ peppiLoop T skip false acc es = peppiLoop T skip true acc es := by
  intro es
  induction es with
  | nil => intro acc; exact .inl (peppiLoop_nil_false T skip acc)
  | cons p rest ih =>
    intro acc
    rw [peppiLoop_step, peppiLoop_step]
    cases pstep T skip acc p with
    | inl r => exact .inr rfl
    | inr acc' => exact ih acc'

/-- an entry is *prefix-safe* when cutting its contents short makes the reader fail, go on (into the error of the next
    iterator call), or return what it returns for the whole entry -/
def PrefOK {μ φ : Type} (C : Codec μ φ) (T : TextOracle) (skip : Bool) (e : Bytes × Bytes) : Prop :=
  ∀ (acc : PAcc μ) (k : Nat) (r : Res (PGame μ φ)), pstep T skip acc (classify C (e.1, e.2.take k)) = .inl r →
    (∃ m, r = .err m) ∨ pstep T skip acc (classify C e) = .inl r

theorem peppiLoop_cut_header {μ φ : Type} (C : Codec μ φ) (T : TextOracle) (skip : Bool) (es : List (Bytes × Bytes)) {n : Nat}
    (h : n < 512) (acc : PAcc μ) :
    ∃ m, peppiLoop T skip (cutItems es n).2 acc ((cutItems es n).1.map (classifyT C)) = .err m := by
  have hc : cutItems es n = if n = 0 then ([], false) else ([.broken], false) := by
    cases es <;> rw [cutItems, if_pos h]
  rw [hc]
  split
  · exact peppiLoop_nil_false T skip acc
  · exact ⟨_, rfl⟩

/-- C07, the entry loop: on every cut of the archive written for `es` it fails or returns what it returns on all of `es` -/
theorem peppiLoop_cut {μ φ : Type} (C : Codec μ φ) (T : TextOracle) (skip : Bool) :
    ∀ (es : List (Bytes × Bytes)), (∀ e ∈ es, PrefOK C T skip e) → ∀ (n : Nat) (acc : PAcc μ),
      (∃ m, peppiLoop T skip (cutItems es n).2 acc ((cutItems es n).1.map (classifyT C)) = .err m) ∨
      peppiLoop T skip (cutItems es n).2 acc ((cutItems es n).1.map (classifyT C)) = peppiLoop T skip true acc (es.map (classify C)) := by
  intro es
  induction es with
  | nil =>
    intro _ n acc
    by_cases h1 : n < 512
    · exact .inl (peppiLoop_cut_header C T skip [] h1 acc)
    · -- behind the first zero block: the marker is complete from byte 1024 on
      have h0 : n ≠ 0 := fun h => h1 (h ▸ (by decide : 0 < 512))
      rw [cutItems, if_neg h0, if_neg h1]
      cases decide (1024 ≤ n)
      · exact .inl (peppiLoop_nil_false T skip acc)
      · exact .inr rfl
  | cons e t ih =>
    intro hH n acc
    by_cases h1 : n < 512
    · exact .inl (peppiLoop_cut_header C T skip (e :: t) h1 acc)
    have h0 : n ≠ 0 := fun h => h1 (h ▸ (by decide : 0 < 512))
    rw [cutItems, if_neg h0, if_neg h1, List.map_cons, peppiLoop_step (p := classify C e)]
    by_cases h2 : n < (tarEntry e).length
    · -- the cut falls inside `e`: its contents cut short, then the iterator's error
      simp only [if_pos h2, List.map_cons, List.map_nil, classifyT]
      rw [peppiLoop_step]
      cases hp : pstep T skip acc (classify C (e.1, e.2.take (n - 512))) with
      | inr acc' => exact .inl ⟨_, rfl⟩
      | inl r => exact (hH e List.mem_cons_self acc (n - 512) r hp).imp id fun hfull => by rw [hfull]
    · simp only [if_neg h2, List.map_cons, classifyT]
      rw [peppiLoop_step]
      cases pstep T skip acc (classify C e) with
      | inl r => exact .inr rfl
      | inr acc' => exact ih (fun e' he' => hH e' (List.mem_cons_of_mem _ he')) _ acc'

/-! ### the written entries are prefix-safe -/

/-- only `frames.arrow` ends the reader's loop otherwise than with an error: the decoders do not panic -/
theorem pstep_classify_inl {μ φ : Type} (C : CodecT μ φ) {T : TextOracle} {skip : Bool} {acc : PAcc μ} {n b : Bytes}
    {r : Res (PGame μ φ)} (h : pstep T skip acc (classify C.toCodec (n, b)) = .inl r) :
    (∃ m, r = .err m) ∨ (n = N_FRAMES ∧ ∃ f, r = finish acc f) := by
  rcases pstep_inl h with hm | ⟨s, _, hp | hp | ⟨b', _, hd⟩ | ⟨b', _, hd⟩⟩ | ⟨m, items, hp⟩
  · exact .inl hm
  · exact absurd (classify_peppiJson C.toCodec hp).symm (C.peppi_np b s)
  · exact absurd (classify_metadataJson C.toCodec hp).symm (C.meta_np b s)
  · exact absurd hd (gameStart_noPanic T b' s)
  · exact absurd hd (gameEnd_noPanic b' s)
  · rw [hp] at h
    rcases pstep_frames T skip acc m items with ⟨e, he⟩ | ⟨_, he⟩ | ⟨_, _, f, _, he⟩
    · exact .inl ⟨e, Sum.inl.inj (h.symm.trans he)⟩
    · exact .inr ⟨classify_frames_name C.toCodec hp, none, Sum.inl.inj (h.symm.trans he)⟩
    · exact .inr ⟨classify_frames_name C.toCodec hp, some f, Sum.inl.inj (h.symm.trans he)⟩

theorem prefOK_of_ne_frames {μ φ : Type} (C : CodecT μ φ) (T : TextOracle) (skip : Bool) (n b : Bytes)
    (hn : n ≠ N_FRAMES) : PrefOK C.toCodec T skip (n, b) := fun _ _ _ hr =>
  (pstep_classify_inl C hr).elim .inl fun h => absurd h.1 hn

/-- under skip-frames the contents are not looked at; otherwise a prefix that decodes at all decodes to the frames that were
    written (`frames_prefix`) -/
theorem prefOK_frames {μ φ : Type} (C : CodecT μ φ) (T : TextOracle) (skip : Bool) (f : φ) :
    PrefOK C.toCodec T skip (N_FRAMES, C.encFrames f) := by
  intro acc k r hr
  rw [classify_frames] at hr ⊢
  rcases pstep_frames T skip acc (C.decFrames ((C.encFrames f).take k)).1 (C.decFrames ((C.encFrames f).take k)).2 with
    ⟨e, he⟩ | ⟨rfl, _⟩ | ⟨_, hm, f', hi, _⟩
  · rw [he] at hr; cases hr; exact .inl ⟨e, rfl⟩
  · exact .inr ((pstep_frames_skip T acc _ _ _ _).trans hr)
  · have hf := C.frames_prefix f k f' hm (by rw [hi]; rfl)
    rw [hm, hi, hf] at hr
    rw [C.frames_rt]; exact .inr hr

theorem slppEntries_prefOK {μ φ : Type} (C : CodecT μ φ) (T : TextOracle) (skip : Bool) (g : PGame μ φ) (startBytes : Bytes)
    (endBytes : Option Bytes) : ∀ e ∈ slppEntries C.toCodec g startBytes endBytes, PrefOK C.toCodec T skip e := by
  have ne {n b : Bytes} (hn : n ≠ N_FRAMES) : PrefOK C.toCodec T skip (n, b) := prefOK_of_ne_frames C T skip n b hn
  exact slppEntries_forall C.toCodec g startBytes endBytes (PrefOK C.toCodec T skip)
    (peppi := ne (by decide)) (metadata := ne (by decide)) (startj := ne (by decide)) (startr := ne (by decide))
    (endj := fun _ _ => ne (by decide)) (endr := fun _ _ => ne (by decide)) (gecko := fun _ _ => ne (by decide))
    (frames := fun f _ => prefOK_frames C T skip f)

/-! ### the reader on every cut of a written archive -/

theorem slppReadL_take {μ φ : Type} (C : Codec μ φ) (T : TextOracle) (skip : Bool) (es : List (Bytes × Bytes))
    (hes : ∀ e ∈ es, EntryOK e) (n : Nat) :
    slppReadL C T skip ((tarArchive es).take n) = peppiRead T skip (cutItems es n).2 ((cutItems es n).1.map (classifyT C)) := by
  have hpl : ((tarArchive es).take n).length ≤ (tarArchive es).length := by
    rw [List.length_take]
    omega
  have hdiv : ((tarArchive es).take n).length / 512 ≤ (tarArchive es).length / 512 := Nat.div_le_div_right hpl
  have hown : ((tarArchive es).take n).length / 512 < ((tarArchive es).take n).length / 512 + 2 := by omega
  have hwhole : ((tarArchive es).take n).length / 512 < (tarArchive es).length / 512 + 2 := by omega
  unfold slppReadL
  -- any fuel above `length / 512` scans the prefix alike; take the one that fits the whole archive
  rw [tarScan_fuel _ _ hown ((tarArchive es).length / 512 + 2) hwhole, tarScan_cut es hes _ (tarArchive_fuel es hes) n]

theorem slppReadL_tarArchive {μ φ : Type} (C : Codec μ φ) (T : TextOracle) (skip : Bool) (es : List (Bytes × Bytes))
    (hes : ∀ e ∈ es, EntryOK e) : slppReadL C T skip (tarArchive es) = peppiRead T skip true (es.map (classify C)) := by
  have h := slppReadL_take C T skip es hes (tarArchive es).length
  rw [List.take_length, cutItems_full es fun e he => (hes e he).nameLen.2, List.map_map] at h
  exact h

theorem slppReadL_cut_any {μ φ : Type} (C : Codec μ φ) (T : TextOracle) (skip : Bool) (es : List (Bytes × Bytes))
    (hes : ∀ e ∈ es, EntryOK e) (hp : ∀ e ∈ es, PrefOK C T skip e) (n : Nat) :
    (∃ m, slppReadL C T skip ((tarArchive es).take n) = .err m) ∨
    slppReadL C T skip ((tarArchive es).take n) = slppReadL C T skip (tarArchive es) := by
  rw [slppReadL_take C T skip es hes, slppReadL_tarArchive C T skip es hes]
  exact peppiLoop_cut C T skip es hp n {}

/-- on the whole archive the lazy reader returns the game (it agrees with `slppRead_written`) -/
theorem slppReadL_written {μ φ : Type} (C : CodecT μ φ) (T : TextOracle) (g : PGame μ φ) (startBytes : Bytes) (endBytes : Option Bytes)
    (hstart : gameStart T startBytes = .ok g.start)
    (hend : endBytes.map gameEnd = g.fend.map Res.ok)
    (hgecko : ∀ c, g.gecko = some c → c.2 < 2 ^ 32)
    (hs : SizesOK C.toCodec g startBytes endBytes) (skip : Bool) :
    slppReadL C.toCodec T skip (slppWrite C.toCodec g startBytes endBytes) = .ok (if skip then { g with frames := none } else { g with frames := g.frames.map C.norm }) :=
  (slppReadL_tarArchive C.toCodec T skip _ (slppEntries_ok C.toCodec g startBytes endBytes hs)).trans
    (peppiRead_slppEntries C.toCodec T g startBytes endBytes hstart hend hgecko skip)

/-- **C07, `.slpp`, every cut, byte level**: reading any prefix of the archive `write` produced is an error or the complete
    game (the same value the whole archive gives) — never anything in between, and never a panic.  -/
theorem slppReadL_cut {μ φ : Type} (C : CodecT μ φ) (T : TextOracle) (g : PGame μ φ) (startBytes : Bytes) (endBytes : Option Bytes)
    (hstart : gameStart T startBytes = .ok g.start)
    (hend : endBytes.map gameEnd = g.fend.map Res.ok)
    (hgecko : ∀ c, g.gecko = some c → c.2 < 2 ^ 32)
    (hs : SizesOK C.toCodec g startBytes endBytes) (skip : Bool) (n : Nat) :
    (∃ m, slppReadL C.toCodec T skip ((slppWrite C.toCodec g startBytes endBytes).take n) = .err m) ∨
    slppReadL C.toCodec T skip ((slppWrite C.toCodec g startBytes endBytes).take n) = .ok (if skip then { g with frames := none } else { g with frames := g.frames.map C.norm }) :=
  (slppReadL_cut_any C.toCodec T skip _ (slppEntries_ok C.toCodec g startBytes endBytes hs)
      (slppEntries_prefOK C T skip g startBytes endBytes) n).imp id
    fun h => h.trans (slppReadL_written C T g startBytes endBytes hstart hend hgecko hs skip)

/-! ### no byte string makes the reader panic -/

theorem pstep_noPanic {μ φ : Type} (C : CodecT μ φ) (T : TextOracle) (skip : Bool) (acc : PAcc μ) (it : TItem) (r : Res (PGame μ φ))
    (h : pstep T skip acc (classifyT C.toCodec it) = .inl r) (s : String) : r ≠ .panic s := by
  cases it with
  | broken => cases h; exact nofun
  | entry n b =>
    rcases pstep_classify_inl C h with ⟨m, rfl⟩ | ⟨_, f, rfl⟩
    · exact nofun
    · exact finish_noPanic _ _ s

theorem peppiLoop_noPanic {μ φ : Type} (C : CodecT μ φ) (T : TextOracle) (skip t : Bool) :
    ∀ (items : List TItem) (acc : PAcc μ) (s : String), peppiLoop T skip t acc (items.map (classifyT C.toCodec)) ≠ .panic s := by
  intro items
  induction items with
  | nil =>
    intro acc s
    rcases peppiLoop_nil (φ := φ) T skip t acc with ⟨_, h⟩ | ⟨m, h⟩
    · rw [List.map_nil, h]; exact finish_noPanic _ _ s
    · rw [List.map_nil, h]; exact nofun
  | cons it rest ih =>
    intro acc s
    rw [List.map_cons, peppiLoop_step]
    cases hp : pstep T skip acc (classifyT C.toCodec it) with
    | inl r => exact pstep_noPanic C T skip acc it r hp s
    | inr acc' => exact ih acc' s

/-- **the `.slpp` reader returns on every byte string**: a game or an error, never a panic (the function is total: it
    terminates), whatever the bytes are — provided the external decoders do not panic -/
theorem slppReadL_noPanic {μ φ : Type} (C : CodecT μ φ) (T : TextOracle) (skip : Bool) (bs : Bytes) (s : String) :
    slppReadL C.toCodec T skip bs ≠ .panic s := by
  unfold slppReadL peppiRead
  exact peppiLoop_noPanic C T skip _ _ _ s

/-- any `CodecT` with its `peppi.json` and `metadata.json` parts replaced by the JSON text models: the round-trip laws and
    the no-panic laws of those entries are theorems (`decPeppiJ_enc`, `parseMeta_json`, `decPeppiJ_noPanic`,
    `parseMeta_noPanic`); what remains assumed is the Arrow IPC part -/
def CodecT.withJson {φ : Type} (C : CodecT KVs φ) : CodecT KVs φ :=
  { toCodec := C.toCodec.withJson, peppi_np := decPeppiJ_noPanic, meta_np := parseMeta_noPanic, frames_prefix := C.frames_prefix }

/-- C07 for `.slpp` with the two JSON entries as real JSON text -/
theorem slppReadL_cut_json {φ : Type} (C : CodecT KVs φ) (T : TextOracle) (g : PGame KVs φ) (startBytes : Bytes) (endBytes : Option Bytes)
    (hstart : gameStart T startBytes = .ok g.start)
    (hend : endBytes.map gameEnd = g.fend.map Res.ok)
    (hgecko : ∀ c, g.gecko = some c → c.2 < 2 ^ 32)
    (hs : SizesOK C.withJson.toCodec g startBytes endBytes) (skip : Bool) (n : Nat) :
    (∃ m, slppReadL C.withJson.toCodec T skip ((slppWrite C.withJson.toCodec g startBytes endBytes).take n) = .err m) ∨
    slppReadL C.withJson.toCodec T skip ((slppWrite C.withJson.toCodec g startBytes endBytes).take n) =
      .ok (if skip then { g with frames := none } else { g with frames := g.frames.map C.norm }) :=
  slppReadL_cut C.withJson T g startBytes endBytes hstart hend hgecko hs skip n

#print axioms slppReadL_cut
#print axioms slppReadL_written
#print axioms slppReadL_noPanic
#print axioms slppReadL_cut_json
end Peppi
