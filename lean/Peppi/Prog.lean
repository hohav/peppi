import Peppi.Stream
/-! **Programs over a byte source.**  `Prog α` is the syntax of a reader whose only interaction with its source is
    `read_exact(n)` (and the forward skip of the skip-frames option): what `peppi::io::slippi::read` and the incremental API are
    over an arbitrary `R: Read`.  A program has two semantics: `Prog.run` over a flat byte string (the reader model `Rd` that
    all file-level theorems are about), and `Prog.runS` over a source that hands out its bytes in arbitrary pieces (`Stream`)
    behind the hashing wrapper of `io/mod.rs` (`HashingReader`: every piece a `read` call returns is fed to the hasher). -/
namespace Peppi

inductive Prog (α : Type) : Type where
  | done (a : α) : Prog α
  | fail (e : String) : Prog α
  | panic (p : String) : Prog α
  /-- `read_exact(n)`, continue with the bytes -/
  | take (n : Nat) (k : Bytes → Prog α) : Prog α
  /-- move forward by `n` bytes (or to the end of the source if it is shorter): `seek(Current(n))`, or the hashed
      `io::copy(take(n))` — no EOF error -/
  | skip (n : Nat) (k : Prog α) : Prog α

namespace Prog

def bind {α β} : Prog α → (α → Prog β) → Prog β
  | done a, f => f a
  | fail e, _ => fail e
  | panic p, _ => panic p
  | take n k, f => take n (fun b => (k b).bind f)
  | skip n k, f => skip n (k.bind f)

instance : Monad Prog where
  pure := done
  bind := bind

def lift {α} : Res α → Prog α
  | .ok a => done a
  | .err e => fail e
  | .panic p => panic p

def u8 : Prog Nat := take 1 (fun b => done ((b.headD 0).toNat))
def be (n : Nat) : Prog Nat := take n (fun b => done (fromBE b))
/-- `read_u8` as a raw byte -/
def byte : Prog UInt8 := take 1 (fun b => done (b.headD 0))

/-- semantics over a flat byte string -/
def run {α} : Prog α → Rd α
  | done a, bs => .ok (a, bs)
  | fail e, _ => .err e
  | panic p, _ => .panic p
  | take n k, bs => if bs.length < n then .err "eof" else (k (bs.take n)).run (bs.drop n)
  | skip n k, bs => k.run (bs.drop n)

theorem run_bind {α β} (p : Prog α) (f : α → Prog β) : (p >>= f).run = (p.run >>= fun a => (f a).run) := by
  show (p.bind f).run = _
  funext bs
  induction p generalizing bs with
  | done a => rfl
  | fail e => rfl
  | panic x => rfl
  | take n k ih =>
    simp only [Prog.bind, run, Bind.bind]
    split
    · rfl
    · exact ih _ _
  | skip n k ih => exact ih _

@[simp] theorem run_pure {α} (a : α) : (pure a : Prog α).run = (pure a : Rd α) := by funext bs; rfl
@[simp] theorem run_done {α} (a : α) : (done a : Prog α).run = (pure a : Rd α) := by funext bs; rfl
@[simp] theorem run_fail {α} (e : String) : (fail e : Prog α).run = Rd.fail e := by funext bs; rfl
@[simp] theorem run_lift {α} (r : Res α) : (lift r).run = Rd.lift r := by funext bs; cases r <;> rfl
@[simp] theorem run_u8 : u8.run = Rd.u8 := by
  funext bs
  cases bs with
  | nil => simp [u8, run, Rd.u8]
  | cons b t => simp [u8, run, Rd.u8]
@[simp] theorem run_be (n : Nat) : (be n).run = Rd.be n := by
  funext bs; simp only [be, run, Rd.be, Rd.take, Bind.bind, pure]; split <;> rfl
theorem run_take (n : Nat) : (take n done).run = Rd.take n := by
  funext bs; simp only [run, Rd.take]

/-- a source behind `HashingReader`: the pieces still to come, and the bytes fed to the hasher so far (`none`: not hashing) -/
structure HSrc where
  pieces : Stream
  fed : Option Bytes

/-- semantics over a fragmenting source with the hashing wrapper -/
def runS {α} : Prog α → HSrc → Res (α × HSrc)
  | done a, h => .ok (a, h)
  | fail e, _ => .err e
  | panic p, _ => .panic p
  | take n k, h =>
    match readExactS n h.pieces with
    | .ok (b, s') => (k b).runS ⟨s', h.fed.map (· ++ b)⟩
    | .err e => .err e
    | .panic p => .panic p
  | skip n k, h => k.runS ⟨dropS n h.pieces, h.fed.map (· ++ h.pieces.flatten.take n)⟩

/-- the statement of `frag` for one program on one source: `frag p h` is `FragAt p h` by unfolding -/
def FragAt {α} (p : Prog α) (h : HSrc) : Prop :=
  (∀ a rest, p.run h.pieces.flatten = .ok (a, rest) →
    ∃ s' used, p.runS h = .ok (a, ⟨s', h.fed.map (· ++ used)⟩) ∧ s'.flatten = rest ∧ h.pieces.flatten = used ++ rest) ∧
  (∀ e, p.run h.pieces.flatten = .err e → ∃ e', p.runS h = .err e') ∧
  (∀ x, p.run h.pieces.flatten = .panic x → p.runS h = .panic x)

theorem fragAt_skip {α} (n : Nat) (k : Prog α) (h : HSrc)
    (ih : FragAt k ⟨dropS n h.pieces, h.fed.map (· ++ h.pieces.flatten.take n)⟩) : FragAt (skip n k) h := by
  obtain ⟨g1, g2, g3⟩ := ih
  simp only [dropS_flat] at g1 g2 g3
  refine ⟨fun a rest hrun => ?_, g2, g3⟩
  obtain ⟨s'', used, hS, hfl, hsplit⟩ := g1 a rest hrun
  refine ⟨s'', h.pieces.flatten.take n ++ used, ?_, hfl, ?_⟩
  · rw [show (skip n k).runS h = _ from hS]; cases h.fed <;> simp
  · rw [List.append_assoc, ← hsplit, List.take_append_drop]

/-- **Fragmentation independence, for every program.**  Over any split of the same bytes into pieces, a program returns what
    it returns on the flat byte string, leaves the same bytes unread, and the hasher has been fed exactly the bytes it
    consumed (a prefix of the input).  Errors stay errors, panics stay panics. -/
theorem frag {α} (p : Prog α) : ∀ (h : HSrc),
    (∀ a rest, p.run h.pieces.flatten = .ok (a, rest) →
      ∃ s' used, p.runS h = .ok (a, ⟨s', h.fed.map (· ++ used)⟩) ∧ s'.flatten = rest ∧ h.pieces.flatten = used ++ rest) ∧
    (∀ e, p.run h.pieces.flatten = .err e → ∃ e', p.runS h = .err e') ∧
    (∀ x, p.run h.pieces.flatten = .panic x → p.runS h = .panic x) := by
  induction p with
  | done a =>
    intro ⟨s, fed⟩
    refine ⟨fun a' rest hr => ?_, nofun, nofun⟩
    cases hr
    exact ⟨s, [], by cases fed <;> simp [runS], rfl, rfl⟩
  | fail e => exact fun h => ⟨nofun, fun _ _ => ⟨e, rfl⟩, nofun⟩
  | panic x => exact fun h => ⟨nofun, nofun, fun y hy => by cases hy; rfl⟩
  | take n k ih =>
    intro h
    simp only [run, runS, readExactS_eq]
    split
    · exact ⟨nofun, fun _ _ => ⟨_, rfl⟩, nofun⟩
    · -- with the bytes there, `take n k` runs as `skip n (k _)` does
      show FragAt (skip n (k (h.pieces.flatten.take n))) h
      exact fragAt_skip n _ h (ih _ _)
  | skip n k ih => exact fun h => fragAt_skip n k h (ih _)

/-- the first clause of `frag` for a program known by what it runs as -/
theorem frag_ok {α} {p : Prog α} {q : Rd α} (hq : p.run = q) (h : HSrc) {a : α} {rest : Bytes}
    (hp : q h.pieces.flatten = .ok (a, rest)) :
    ∃ s' used, p.runS h = .ok (a, ⟨s', h.fed.map (· ++ used)⟩) ∧ s'.flatten = rest ∧ h.pieces.flatten = used ++ rest :=
  (frag p h).1 a rest (hq ▸ hp)

#print axioms frag
end Prog
end Peppi
