import Peppi.SlppBytes
/-! C18: in the archive `write` produces the entries agree with each other, their names come in the documented order, and
    writing is a function of the game. -/
namespace Peppi

def lookupEntry (n : Bytes) (es : List (Bytes × Bytes)) : Option Bytes := (es.find? (·.1 = n)).map (·.2)

/-- the documented order of entry names -/
def entryNames (hasEnd hasGecko hasFrames : Bool) : List Bytes :=
  [N_PEPPI, N_META, N_STARTJ, N_STARTR] ++ ((if hasEnd then [N_ENDJ, N_ENDR] else []) ++
    ((if hasGecko then [N_GECKO] else []) ++ (if hasFrames then [N_FRAMES] else [])))

/-- **C18, entry order**: `peppi.json` first, then `metadata.json`, `start.json`, `start.raw`, the end pair when the game has
    an end, the Gecko blob when present, `frames.arrow` last when the game has frames -/
theorem slppEntries_names_order {μ φ : Type} (C : Codec μ φ) (g : PGame μ φ) (sb : Bytes) (eb : Option Bytes)
    (hend : eb.isSome = g.fend.isSome) :
    (slppEntries C g sb eb).map (·.1) = entryNames g.fend.isSome g.gecko.isSome g.frames.isSome := by
  simp only [slppEntries, entryNames, List.map_append]
  congr 2
  · -- `hend`: the end block and its bytes are both there or both absent
    cases hf : g.fend with
    | none =>
      cases eb with
      | none => rfl
      | some b => rw [hf] at hend; cases hend
    | some e =>
      cases eb with
      | none => rw [hf] at hend; cases hend
      | some b => rfl
  congr 1
  · cases g.gecko <;> rfl
  · cases g.frames <;> rfl

/-- the names are pairwise different, so a lookup by name finds what the writer put under that name -/
theorem entryNames_nodup : ∀ a b c, (entryNames a b c).Nodup := by decide

theorem lookupEntry_of_mem {n b : Bytes} {es : List (Bytes × Bytes)} (hnd : (es.map (·.1)).Nodup) (h : (n, b) ∈ es) :
    lookupEntry n es = some b := by
  induction es with
  | nil => cases h
  | cons e t ih =>
    rw [List.map_cons, List.nodup_cons] at hnd
    rw [lookupEntry, List.find?_cons]
    rcases List.mem_cons.mp h with rfl | h'
    · simp
    · have hne : e.1 ≠ n := fun he => hnd.1 (he ▸ List.mem_map_of_mem (f := (·.1)) h')
      simp only [hne, decide_false]
      exact ih hnd.2 h'

theorem lookupEntry_none {n : Bytes} {es : List (Bytes × Bytes)} (h : n ∉ es.map (·.1)) : lookupEntry n es = none := by
  rw [lookupEntry, Option.map_eq_none_iff, List.find?_eq_none]
  intro e he hn
  exact h (by simp only [decide_eq_true_eq] at hn; exact hn ▸ List.mem_map_of_mem (f := (·.1)) he)

/-- **C18, the JSON entries agree with the raw entries**: what the archive holds under `start.json` is the rendering of the
    start the reader parses from the archive's `start.raw`; likewise for the end pair; and `peppi.json` decodes to the hash and
    quirks of the game that is read back -/
theorem slppEntries_consistent {μ φ : Type} (C : Codec μ φ) (T : TextOracle) (g : PGame μ φ) (sb : Bytes) (eb : Option Bytes)
    (hstart : gameStart T sb = .ok g.start) (hend : eb.map gameEnd = g.fend.map Res.ok) :
    let es := slppEntries C g sb eb
    (∃ raw s, lookupEntry N_STARTR es = some raw ∧ gameStart T raw = .ok s ∧ lookupEntry N_STARTJ es = some (C.startJson s)) ∧
    (∀ e, g.fend = some e → ∃ raw, lookupEntry N_ENDR es = some raw ∧ gameEnd raw = .ok e ∧ lookupEntry N_ENDJ es = some (C.endJson e)) ∧
    (g.fend = none → lookupEntry N_ENDR es = none ∧ lookupEntry N_ENDJ es = none) ∧
    (∃ txt, lookupEntry N_PEPPI es = some txt ∧ C.decPeppi txt = .ok ⟨true, g.hash, g.quirks⟩) := by
  have hnames := slppEntries_names_order C g sb eb (isSome_of_map_eq hend)
  have hnd : ((slppEntries C g sb eb).map (·.1)).Nodup := hnames ▸ entryNames_nodup _ _ _
  -- `peppi.json`, `start.json`, `start.raw` are the first, third and fourth entry
  have hpeppi : (N_PEPPI, C.encPeppi g.hash g.quirks) ∈ slppEntries C g sb eb := List.mem_append_left _ (.head _)
  have hstartj : (N_STARTJ, C.startJson g.start) ∈ slppEntries C g sb eb :=
    List.mem_append_left _ (.tail _ (.tail _ (.head _)))
  have hstartr : (N_STARTR, sb) ∈ slppEntries C g sb eb := List.mem_append_left _ (.tail _ (.tail _ (.tail _ (.head _))))
  refine ⟨⟨sb, g.start, lookupEntry_of_mem hnd hstartr, hstart, lookupEntry_of_mem hnd hstartj⟩, ?_, ?_,
    ⟨C.encPeppi g.hash g.quirks, lookupEntry_of_mem hnd hpeppi, C.peppi_rt _ _⟩⟩
  · intro e he
    cases eb with
    | none => rw [he] at hend; cases hend
    | some raw =>
      rw [he] at hend
      have hpair : ∀ x ∈ [(N_ENDJ, C.endJson e), (N_ENDR, raw)], x ∈ slppEntries C g sb (some raw) := fun x hx =>
        List.mem_append_right _ (List.mem_append_left _ (by rw [he]; exact hx))
      exact ⟨raw, lookupEntry_of_mem hnd (hpair _ (.tail _ (.head _))), Option.some.inj hend,
        lookupEntry_of_mem hnd (hpair _ (.head _))⟩
  · intro he
    rw [he] at hnames
    have : ∀ b c, N_ENDR ∉ entryNames false b c ∧ N_ENDJ ∉ entryNames false b c := by decide
    exact ⟨lookupEntry_none (hnames ▸ (this _ _).1), lookupEntry_none (hnames ▸ (this _ _).2)⟩

/-- **C18, determinism**: the archive is a function of the game and its raw blocks -/
theorem slppWrite_deterministic {μ φ : Type} (C : Codec μ φ) (g g' : PGame μ φ) (sb sb' : Bytes) (eb eb' : Option Bytes)
    (h : g = g') (hs : sb = sb') (he : eb = eb') : slppWrite C g sb eb = slppWrite C g' sb' eb' := by
  subst h hs he; rfl

#print axioms slppEntries_names_order
#print axioms slppEntries_consistent
end Peppi
