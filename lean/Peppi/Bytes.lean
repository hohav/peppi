/-! Big-endian numbers: `fromBE` and `toBE n` are inverse between byte strings of length `n` and numbers below `256 ^ n`. -/
namespace Peppi

abbrev Bytes := List UInt8

def fromBE : Bytes → Nat
  | [] => 0
  | b :: bs => b.toNat * 256 ^ bs.length + fromBE bs

def toBE : Nat → Nat → Bytes
  | 0, _ => []
  | n+1, v => UInt8.ofNat (v / 256 ^ n) :: toBE n (v % 256 ^ n)

theorem toBE_length (n v : Nat) : (toBE n v).length = n := by
  induction n generalizing v with
  | zero => rfl
  | succ n ih => simp [toBE, ih]

theorem fromBE_lt (bs : Bytes) : fromBE bs < 256 ^ bs.length := by
  induction bs with
  | nil => exact Nat.one_pos
  | cons b bs ih =>
    calc b.toNat * 256 ^ bs.length + fromBE bs
        < b.toNat * 256 ^ bs.length + 256 ^ bs.length := Nat.add_lt_add_left ih _
      _ = (b.toNat + 1) * 256 ^ bs.length := (Nat.succ_mul _ _).symm
      _ ≤ 256 * 256 ^ bs.length := Nat.mul_le_mul_right _ b.toNat_lt
      _ = 256 ^ (bs.length + 1) := Nat.pow_succ'.symm

theorem toBE_fromBE (bs : Bytes) : toBE bs.length (fromBE bs) = bs := by
  induction bs with
  | nil => rfl
  | cons b bs ih =>
    have hlt := fromBE_lt bs
    have hpos : 0 < 256 ^ bs.length := Nat.pow_pos (by decide)
    simp only [List.length_cons, toBE, fromBE]
    have h1 : (b.toNat * 256 ^ bs.length + fromBE bs) / 256 ^ bs.length = b.toNat := by
      rw [Nat.mul_comm, Nat.mul_add_div hpos, Nat.div_eq_of_lt hlt]; simp
    have h2 : (b.toNat * 256 ^ bs.length + fromBE bs) % 256 ^ bs.length = fromBE bs := by
      rw [Nat.mul_comm, Nat.mul_add_mod, Nat.mod_eq_of_lt hlt]
    rw [h1, h2, ih]
    simp

theorem fromBE_toBE (n v : Nat) (h : v < 256 ^ n) : fromBE (toBE n v) = v := by
  induction n generalizing v with
  | zero => exact (Nat.lt_one_iff.mp h).symm
  | succ n ih =>
    have hpos : 0 < 256 ^ n := Nat.pow_pos (by decide)
    have hdiv : v / 256 ^ n < 256 := Nat.div_lt_of_lt_mul (Nat.pow_succ .. ▸ h)
    simp only [toBE, fromBE, toBE_length]
    rw [ih _ (Nat.mod_lt _ hpos), UInt8.toNat_ofNat_of_lt' hdiv]
    exact Nat.div_add_mod' v (256 ^ n)

end Peppi
