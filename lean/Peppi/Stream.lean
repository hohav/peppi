import Peppi.Res
/-! A byte stream that hands out its content in arbitrary pieces (what `Read::read` may do), and `read_exact` over it.
    `Prog.dropS` (the forward skip of `Prog.runS`, Prog.lean) stands here because `readExactS_eq` is stated with it. -/
namespace Peppi

/-- the pieces successive `read` calls will return (an empty piece is a zero-length read that is not EOF, e.g. `Interrupted`
    retried); after the last piece the stream is at EOF -/
abbrev Stream := List Bytes

/-- `read_exact(n)`: keep reading until `n` bytes have arrived or EOF -/
def readExactS : Nat → Stream → Res (Bytes × Stream)
  | 0, s => .ok ([], s)
  | _+1, [] => .err "eof"
  | n+1, c :: cs =>
    if n + 1 ≤ c.length then .ok (c.take (n+1), c.drop (n+1) :: cs)
    else match readExactS (n + 1 - c.length) cs with
      | .ok (b, s') => .ok (c ++ b, s')
      | .err e => .err e
      | .panic p => .panic p
termination_by n s => s.length

/-- move forward by up to `n` bytes over the pieces -/
def Prog.dropS : Nat → Stream → Stream
  | 0, s => s
  | _+1, [] => []
  | n+1, c :: cs => if n + 1 ≤ c.length then c.drop (n + 1) :: cs else dropS (n + 1 - c.length) cs
termination_by n s => s.length

theorem Prog.dropS_flat (s : Stream) (n : Nat) : (dropS n s).flatten = s.flatten.drop n := by
  fun_induction dropS n s with
  | case1 s => rfl
  | case2 n => rfl
  | case3 n c cs hle => rw [List.flatten_cons, List.flatten_cons, List.drop_append_of_le_length hle]
  | case4 n c cs hle ih =>
    rw [ih, List.flatten_cons, List.drop_append, List.drop_eq_nil_of_le (Nat.le_of_not_ge hle), List.nil_append]

/-- (`readExactS` and `dropS` recurse alike: the induction goes along `dropS`) -/
theorem readExactS_eq (s : Stream) (n : Nat) :
    readExactS n s = if s.flatten.length < n then .err "eof" else .ok (s.flatten.take n, Prog.dropS n s) := by
  fun_induction Prog.dropS n s with
  | case1 s => simp [readExactS]
  | case2 n => simp [readExactS]
  | case3 n c cs hle =>
    have : ¬ (c.length + cs.flatten.length < n + 1) := Nat.not_lt.mpr (Nat.le_trans hle (Nat.le_add_right _ _))
    simp only [readExactS, hle, ↓reduceIte, List.flatten_cons, List.length_append, this, List.take_append_of_le_length hle]
  | case4 n c cs hle ih =>
    rw [readExactS, if_neg hle, ih, List.flatten_cons, List.length_append]
    by_cases hl : cs.flatten.length < n + 1 - c.length
    · have hl' : c.length + cs.flatten.length < n + 1 := by omega
      rw [if_pos hl, if_pos hl']
    · have hl' : ¬ c.length + cs.flatten.length < n + 1 := by omega
      rw [if_neg hl, if_neg hl', List.take_append, List.take_of_length_le (Nat.le_of_not_ge hle)]

/-- **fragmentation independence of exact-length reads**: over any split of the same bytes into pieces, `read_exact` returns
    what the slice reader returns on the concatenation, and leaves the same bytes -/
theorem readExactS_flat : ∀ (s : Stream) (n : Nat),
    (∀ b s', readExactS n s = .ok (b, s') → Rd.take n s.flatten = .ok (b, s'.flatten)) ∧
    (∀ e, readExactS n s = .err e → ∃ e', Rd.take n s.flatten = .err e') ∧
    (∀ p, readExactS n s ≠ .panic p) := by
  intro s n
  rw [readExactS_eq, Rd.take]
  split
  · exact ⟨nofun, fun _ _ => ⟨_, rfl⟩, nofun⟩
  · refine ⟨fun b s' h => ?_, nofun, nofun⟩
    cases h
    rw [Prog.dropS_flat]

#print axioms readExactS_flat
end Peppi
