import Peppi.SlppBytes
import Peppi.Lemmas.ArrowFrame
import Peppi.Lemmas.Unified2
import Peppi.Lemmas.Lengths
/-! **C02 end to end, at byte level**: `.slp` bytes → `slippi::read` → `peppi::write` → `.slpp` bytes → `peppi::read` →
    `slippi::write` → the same `.slp` bytes, for the canonical file of every well-formed replay of every version up to the
    maximum, with or without Gecko block, Game End, metadata, frames.

    Tar is proved; the JSON entries and the Arrow IPC stream enter as any `Codec` with `norm = normF` (the IPC validity
    normalisation), which `C02Example.lean` instantiates with the JSON text models. -/
namespace Peppi
open Extracted

/-- number of members of a generated struct that exist at version `v` -/
def nVis (v : Ver) (L : List Fld) : Nat := (L.filter (visible v)).length

theorem RowOK_length (v : Ver) : ∀ (L : List Fld) (vals : List Nat), RowOK v L vals → vals.length = nVis v L := by
  intro L
  induction L with
  | nil => intro vals h; cases h; rfl
  | cons f fs ih =>
    intro vals h
    cases hv : visible v f with
    | true =>
      obtain ⟨x, xs, rfl, -, hxs⟩ := (RowOK_cons_of_visible hv).mp h
      simp [nVis, hv, ih xs hxs]
    | false => simpa [nVis, hv] using ih vals ((RowOK_cons_of_not_visible hv).mp h)

def widthsOf (v : Ver) : Widths :=
  ⟨nVis v Pre.readPush, nVis v Post.readPush, nVis v Start.readPush, nVis v End.readPush, nVis v Item.readPush⟩

theorem colsOf_rowsOK (v : Ver) (hist : List (Option CharOcc)) (h : ∀ c ∈ hist, ∀ x, c = some x → OccOK v x) :
    RowsOK (widthsOf v).pre (colsOf hist).pre ∧ RowsOK (widthsOf v).post (colsOf hist).post := by
  constructor <;> refine RowsOK_map _ _ _ fun c hc vs hvs => ?_
  · obtain ⟨x, rfl, rfl⟩ := Option.map_eq_some_iff.mp hvs
    exact RowOK_length v _ _ (h _ hc x rfl).1
  · obtain ⟨x, rfl, rfl⟩ := Option.map_eq_some_iff.mp hvs
    exact RowOK_length v _ _ (h _ hc x rfl).2

/-- the columns of a history of well-formed frame occurrences have rows of the version's widths -/
theorem expFrames_rowsOK (v : Ver) (shape : List PortOccupancy) (h : List FrameOcc)
    (hok : ∀ o ∈ h, o.OK v (nSlots shape)) : FrameRowsOK (widthsOf v) (expFrames v shape h) := by
  have hflat : ∀ d ∈ expFlat shape h, RowsOK (widthsOf v).pre d.pre ∧ RowsOK (widthsOf v).post d.post := by
    intro d hd
    obtain ⟨c, _, rfl⟩ := List.mem_map.mp hd
    refine colsOf_rowsOK v _ fun e he x hx => ?_
    obtain ⟨o, ho, rfl⟩ := List.mem_map.mp he
    -- a character present in slot `c` of frame `o` is one of `o`'s characters
    exact (hok o ho).occ _ (List.mem_of_getElem? (Option.join_eq_some_iff.mp hx)) x rfl
  have hlen : (expFlat shape h).length = nSlots shape := by simp only [expFlat, List.length_map, List.length_range]
  refine ⟨fun p hp => ?_, fun sc hsc => ?_, fun ec hec => ?_, fun it hit => ?_, ?_⟩
  · obtain ⟨h1, h2⟩ := rebuild_mem shape (expFlat shape h) hlen p hp
    exact ⟨(hflat _ h1).1, (hflat _ h1).2, fun d hd => hflat _ (h2 d hd)⟩
  · obtain ⟨_, ⟨⟩⟩ := Option.ite_none_right_eq_some.mp hsc
    exact RowsOK_map _ _ _ fun o ho vs hvs => by cases hvs; exact RowOK_length v _ _ (hok o ho).start
  · obtain ⟨_, ⟨⟩⟩ := Option.ite_none_right_eq_some.mp hec
    exact RowsOK_map _ _ _ fun o ho vs hvs => by cases hvs; exact RowOK_length v _ _ (hok o ho).fend
  · obtain ⟨_, ⟨⟩⟩ := Option.ite_none_right_eq_some.mp hit
    refine RowsOK_map _ _ _ fun row hrow vs hvs => ?_
    obtain ⟨o, ho, hrow⟩ := List.mem_flatMap.mp hrow
    cases hvs
    exact RowOK_length v _ _ ((hok o ho).items _ hrow)
  · simp only [expFrames]; split <;> rfl

/-- `peppi::write`'s view of a game: the frame set exported to Arrow when there is at least one frame -/
def toP (g : Game) (hash : Option String) : PGame KVs AFrame :=
  { start := g.start, fend := g.fend, metadata := g.metadata, gecko := g.gecko.map fun k => (k.bytes, k.actualSize),
    frames := if g.frames.id = [] then none else some (intoF' (widthsOf g.start.version) g.frames),
    hash := hash, quirks := g.doubleGameEnd }

/-- `peppi::read`'s result as a game: the frame set imported from Arrow, or the empty frame set built from the start block -/
def ofP (p : PGame KVs AFrame) : Game :=
  { start := p.start, fend := p.fend, metadata := p.metadata, gecko := p.gecko.map fun c => ⟨c.1, c.2⟩,
    frames := match p.frames with
      | some a => fromF' (p.start.version.gte 3 0) a
      | none => FCols.new p.start.version (portOccupancy p.start),
    hashedLen := none, doubleGameEnd := p.quirks }

theorem gameAny_fields (r : Replay) (s : Start) (ge : Option End) (gk : Option GeckoBlocks) :
    (r.gameAny s ge gk).frames = expFrames s.version (portOccupancy s) r.frames ∧ (r.gameAny s ge gk).start = s ∧
    (r.gameAny s ge gk).fend = ge ∧ (r.gameAny s ge gk).hashedLen = none := by
  rw [Replay.gameAny_eq]; exact ⟨rfl, rfl, rfl, rfl⟩

/-- export, IPC normalisation, import give back the columns of any well-formed history, at every version -/
theorem import_export (v : Ver) (shape : List PortOccupancy) (h : List FrameOcc) (hok : ∀ o ∈ h, o.OK v (nSlots shape)) :
    fromF' (v.gte 3 0) (normF (intoF' (widthsOf v) (expFrames v shape h))) = expFrames v shape h := by
  refine fromF'_norm_intoF'_of _ _ (expFrames_rowsOK v shape h hok) _ ?_ fun hw ec hec => ?_
  · -- the history has an end column iff the version is at least 3.0
    show (if v.gte 3 0 then some _ else none : Option SCols).isSome = v.gte 3 0
    cases v.gte 3 0 <;> rfl
  · -- an `End` without fields: every end row of the history is empty
    obtain ⟨_, ⟨⟩⟩ := Option.ite_none_right_eq_some.mp hec
    simp only [expFrames, List.length_map, ← List.map_const']
    refine List.map_congr_left fun o ho => congrArg some (List.eq_nil_of_length_eq_zero ?_)
    rw [RowOK_length v _ _ (hok o ho).fend]
    exact hw

/-- what comes back from the archive is the game that went in, given the round trip of its frame set (`hf`) -/
theorem ofP_toP (C : Codec KVs AFrame) (hnorm : C.norm = normF) (g : Game) (hh : g.hashedLen = none)
    (hf : (if g.frames.id = [] then FCols.new g.start.version (portOccupancy g.start)
           else fromF' (g.start.version.gte 3 0) (normF (intoF' (widthsOf g.start.version) g.frames))) = g.frames) :
    ofP { (toP g none) with frames := (toP g none).frames.map C.norm } = g := by
  cases g with
  | mk st fe frs md gko hl dge =>
    simp only at hh hf
    subst hh
    simp only [ofP, toP, hnorm]
    have hgk : (gko.map fun k => (k.bytes, k.actualSize)).map (fun c => (⟨c.1, c.2⟩ : Gecko)) = gko := by
      cases gko <;> rfl
    rw [hgk]
    congr 1
    by_cases hid : frs.id = []
    · simp only [hid, ↓reduceIte, Option.map_none] at hf ⊢; exact hf
    · simp only [hid, ↓reduceIte, Option.map_some] at hf ⊢; exact hf

/-- **C02, bytes to bytes.**  For the canonical `.slp` file `x` of any well-formed replay of a version the writers accept
    (at least one frame needs at least one occupied port for the Arrow export — without one `into_struct_array` panics, the
    recorded finding D6): reading `x`, writing the game as `.slpp`, reading those bytes back and writing the result as `.slp`
    reproduces `x` byte for byte.  `C` is any codec whose frame part round-trips up to the IPC validity normalisation. -/
theorem C02_bytes (C : Codec KVs AFrame) (hnorm : C.norm = normF) (T : TextOracle) (r : Replay) (s : Start) (gk : Option GeckoBlocks)
    (h : r.WFAny T s gk) (hmax : assertMaxVersion s.version = .ok ())
    (hsize : ∀ g, readSlp T {} (r.encodeAny s.version (portOccupancy s) gk) = .ok g →
      SizesOK C (toP g none) g.start.bytes (g.fend.map (·.bytes))) :
    ∃ g p, readSlp T {} (r.encodeAny s.version (portOccupancy s) gk) = .ok g ∧
      slppRead C T false (slppWrite C (toP g none) g.start.bytes (g.fend.map (·.bytes))) = .ok p ∧
      writeSlp (ofP p) = .ok (r.encodeAny s.version (portOccupancy s) gk) := by
  obtain ⟨ge, hge⟩ := h.parsedEnd
  have hrd := readSlp_plain_any h hge
  obtain ⟨hfr, hst, hfe, hhl⟩ := gameAny_fields r s ge gk
  -- the start and end blocks the writer stores are the ones the game was parsed from
  have hstart : gameStart T (r.gameAny s ge gk).start.bytes = .ok (r.gameAny s ge gk).start := by
    rw [hst, gameStart_bytes T _ _ h.start]
    exact h.start
  have hend : ((r.gameAny s ge gk).fend.map (·.bytes)).map gameEnd = (r.gameAny s ge gk).fend.map Res.ok := by
    rw [hfe, ← parsedEnd_bytes hge]
    exact hge
  have hgecko : ∀ c, (toP (r.gameAny s ge gk) none).gecko = some c → c.2 < 2 ^ 32 := by
    intro c hc
    rw [Replay.gameAny_eq] at hc
    cases gk with
    | none => cases hc
    | some g =>
      cases hc
      obtain ⟨-, -, -, -, htotal⟩ := h.gecko g rfl
      exact htotal
  have hrt := slppRead_written C T (toP (r.gameAny s ge gk) none) _ _ hstart hend hgecko (hsize _ hrd) false
  refine ⟨_, _, hrd, hrt, ?_⟩
  -- the game that comes back is the game that went in
  have hback : ofP { (toP (r.gameAny s ge gk) none) with frames := (toP (r.gameAny s ge gk) none).frames.map C.norm } = r.gameAny s ge gk := by
    apply ofP_toP C hnorm _ hhl
    rw [hfr, hst]
    by_cases hid : (expFrames s.version (portOccupancy s) r.frames).id = []
    · rw [if_pos hid, List.map_eq_nil_iff.mp hid]; exact FCols_new_eq _ _
    · rw [if_neg hid]
      exact import_export s.version (portOccupancy s) r.frames h.frames
  show writeSlp (ofP { (toP (r.gameAny s ge gk) none) with frames := (toP (r.gameAny s ge gk) none).frames.map C.norm }) = _
  rw [hback]
  exact write_game_any T r s gk h hmax ge hge

#print axioms import_export
#print axioms C02_bytes
end Peppi
