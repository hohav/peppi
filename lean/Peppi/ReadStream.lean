import Peppi.ReadProg
import Peppi.Lemmas.C12
/-! The reader over a source that returns short reads, behind the hashing wrapper: consequences of `Prog.frag` and
    `run_readProg` (C11, C12). -/
namespace Peppi
open Extracted Prog

/-- `io::slippi::read(r, opts)` for a source `r` that delivers the pieces `s`: the program of exact reads run behind the
    hashing wrapper (hasher present iff `compute_hash`); the reported hash covers the bytes fed to the hasher.  The fuel is
    `readMap`'s own (Ubjson.lean) on the whole input: enough for both loops (`run_readProg`). -/
def readSlpS (T : TextOracle) (opts : Opts) (s : Stream) : Res (Game × Option Bytes) :=
  match (readProg T opts (2 * s.flatten.length + 2)).runS ⟨s, if opts.computeHash then some [] else none⟩ with
  | .ok (g, h) => .ok ({ g with hashedLen := h.fed.map (·.length) }, h.fed)
  | .err e => .err e
  | .panic p => .panic p

/-- **C11 / C12, fragmentation independence of the one-shot reader.**  However the input is cut into the pieces successive
    `read` calls return, the reader yields the game it yields on the whole byte string, and the hasher is fed exactly the prefix
    that was consumed (the whole file for a well-formed one: `C11_range_any`).  Errors stay errors, panics stay panics. -/
theorem readSlpS_frag (T : TextOracle) (opts : Opts) (s : Stream) :
    (∀ g, readSlp T opts s.flatten = .ok g →
      ∃ fed, readSlpS T opts s = .ok (g, fed) ∧
        (opts.computeHash = true → ∃ used rest, fed = some used ∧ s.flatten = used ++ rest ∧ g.hashedLen = some used.length) ∧
        (opts.computeHash = false → fed = none ∧ g.hashedLen = none)) ∧
    (∀ e, readSlp T opts s.flatten = .err e → ∃ e', readSlpS T opts s = .err e') ∧
    (∀ p, readSlp T opts s.flatten = .panic p → readSlpS T opts s = .panic p) := by
  obtain ⟨f1, f2, f3⟩ := frag (readProg T opts (2 * s.flatten.length + 2)) ⟨s, if opts.computeHash then some [] else none⟩
  simp only [run_readProg T opts _ s.flatten (Nat.le_refl _)] at f1 f2 f3
  unfold readSlp readSlpS
  cases hp : readP T opts s.flatten with
  | err e0 =>
    obtain ⟨e', he'⟩ := f2 e0 hp
    exact ⟨fun _ h => (by cases h), fun _ _ => ⟨e', by rw [he']⟩, fun _ h => (by cases h)⟩
  | panic p0 => exact ⟨fun _ h => (by cases h), fun _ h => (by cases h), fun p hpn => by cases hpn; rw [f3 p0 hp]⟩
  | ok x =>
    obtain ⟨g0, rest⟩ := x
    obtain ⟨s', used, hS, -, hsplit⟩ := f1 g0 rest hp
    have hlen : s.flatten.length - rest.length = used.length := by rw [hsplit]; simp
    refine ⟨fun g hg => ?_, fun _ h => (by cases h), fun _ h => (by cases h)⟩
    cases hg
    rw [hS, hlen]
    cases opts.computeHash
    · exact ⟨none, rfl, fun h => (by cases h), fun _ => ⟨rfl, rfl⟩⟩
    · exact ⟨some used, rfl, fun _ => ⟨used, rest, rfl, hsplit, rfl⟩, fun h => (by cases h)⟩

/-- **C12, one incremental step**: `parse_event` over a fragmenting source consumes the same bytes, returns the same event
    code and leaves the same state as over the flat bytes -/
theorem parseEventS_frag (ps : ParseState) (h : HSrc) (code : Nat) (ps' : ParseState) (rest : Bytes)
    (hp : parseEvent ps h.pieces.flatten = .ok ((code, ps'), rest)) :
    ∃ s' used, (parseEventP ps).runS h = .ok ((code, ps'), ⟨s', h.fed.map (· ++ used)⟩) ∧ s'.flatten = rest ∧
      h.pieces.flatten = used ++ rest ∧ ps'.bytesRead = ps.bytesRead + used.length := by
  obtain ⟨s', used, hS, hfl, hsplit⟩ := frag_ok (run_parseEventP ps) h hp
  refine ⟨s', used, hS, hfl, hsplit, ?_⟩
  have hc := parseEvent_count ps h.pieces.flatten code ps' rest hp
  rw [hsplit] at hc
  simp only [List.length_append] at hc
  omega

/-- the header and start steps of the incremental API, likewise -/
theorem parseHeaderS_frag (h : HSrc) (rawLen : Nat) (rest : Bytes) (hp : parseHeader h.pieces.flatten = .ok (rawLen, rest)) :
    ∃ s' used, parseHeaderP.runS h = .ok (rawLen, ⟨s', h.fed.map (· ++ used)⟩) ∧ s'.flatten = rest ∧ h.pieces.flatten = used ++ rest :=
  frag_ok run_parseHeaderP h hp

theorem parseStartS_frag (T : TextOracle) (h : HSrc) (ps : ParseState) (rest : Bytes) (hp : parseStart T h.pieces.flatten = .ok (ps, rest)) :
    ∃ s' used, (parseStartP T).runS h = .ok (ps, ⟨s', h.fed.map (· ++ used)⟩) ∧ s'.flatten = rest ∧ h.pieces.flatten = used ++ rest :=
  frag_ok (run_parseStartP T) h hp

#print axioms readSlpS_frag
#print axioms parseEventS_frag
end Peppi
