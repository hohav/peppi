import Peppi.JsonText
import Peppi.SlppBytes
/-! The JSON text of `peppi.json` (`serde_json::to_vec(&Peppi { version, slp_hash, quirks })` with the two optional fields
    skipped when `None`), and the reader side that text exercises.  With it the `peppi_rt` law of the `.slpp` round trip is a
    theorem about a text model that is compared with `serde_json` on every run (driver op `peppij`). -/
namespace Peppi

def J_HEAD : Bytes := [0x7b, 0x22, 0x76, 0x65, 0x72, 0x73, 0x69, 0x6f, 0x6e, 0x22, 0x3a, 0x5b]      -- {"version":[
def J_HASH : Bytes := [0x2c, 0x22, 0x73, 0x6c, 0x70, 0x5f, 0x68, 0x61, 0x73, 0x68, 0x22, 0x3a, 0x22]      -- ,"slp_hash":"
def J_QUIRKS : Bytes := [0x2c, 0x22, 0x71, 0x75, 0x69, 0x72, 0x6b, 0x73, 0x22, 0x3a, 0x7b, 0x22, 0x64, 0x6f, 0x75, 0x62, 0x6c, 0x65, 0x5f, 0x67, 0x61, 0x6d, 0x65, 0x5f, 0x65, 0x6e, 0x64, 0x22, 0x3a]    -- ,"quirks":{"double_game_end":
def J_TRUE : Bytes := [0x74, 0x72, 0x75, 0x65]      -- true
def J_FALSE : Bytes := [0x66, 0x61, 0x6c, 0x73, 0x65]      -- false

/-- the UTF-8 bytes of a string -/
def strBytes (s : String) : Bytes := s.toByteArray.data.toList

def hashJ : Option String → Bytes
  | none => []
  | some s => J_HASH ++ (escStr (strBytes s) ++ [0x22])
def quirksJ : Option Bool → Bytes
  | none => []
  | some b => J_QUIRKS ++ ((if b then J_TRUE else J_FALSE) ++ [0x7d])

/-- `serde_json::to_vec(&Peppi { version: Version(a, b, c), slp_hash, quirks })` -/
def encPeppiV (a b c : Nat) (h : Option String) (q : Option Bool) : Bytes :=
  J_HEAD ++ (natDec a ++ (0x2c :: (natDec b ++ (0x2c :: (natDec c ++ (0x5d :: (hashJ h ++ (quirksJ q ++ [0x7d]))))))))

/-- what `write` puts into `peppi.json`: the current format version 2.0.0 -/
def encPeppiJ (h : Option String) (q : Option Bool) : Bytes := encPeppiV 2 0 0 h q

def stripPrefix (p bs : Bytes) : Option Bytes := if p.isPrefixOf bs then some (bs.drop p.length) else none

theorem stripPrefix_append (p r : Bytes) : stripPrefix p (p ++ r) = some r := by
  simp [stripPrefix, List.isPrefixOf_iff_prefix]

/-- a decimal number at the head, and what follows: the digit arm of `pVal` (JsonText.lean) with the value as a `Nat` -/
def num (bs : Bytes) : Option (Nat × Bytes) :=
  match bs with
  | b :: _ => if isDecDigit b then some (parseNatAcc 0 bs) else none
  | [] => none

theorem num_natDec (n : Nat) (rest : Bytes) (hr : NoDigitHead rest) : num (natDec n ++ rest) = some (n, rest) := by
  obtain ⟨b, t, hb, hd, hp⟩ := natDec_reads_back n rest hr
  rw [hb, num, if_pos hd, hp]

/-- the optional `slp_hash` field -/
def decHash (r : Bytes) : Option (Option String × Bytes) :=
  match stripPrefix J_HASH r with
  | none => some (none, r)
  | some r' =>
    match unescStr (r'.length + 1) r' with
    | none => none
    | some (s, r'') =>
      match String.fromUTF8? (ByteArray.mk s.toArray) with
      | some str => some (some str, r'')
      | none => none

/-- the optional `quirks` field -/
def decQuirks (r : Bytes) : Option (Option Bool × Bytes) :=
  match stripPrefix J_QUIRKS r with
  | none => some (none, r)
  | some r' =>
    match stripPrefix J_TRUE r' with
    | some (0x7d :: r'') => some (some true, r'')
    | _ => match stripPrefix J_FALSE r' with
      | some (0x7d :: r'') => some (some false, r'')
      | _ => none

/-- `serde_json::from_reader::<Peppi>` on the texts the writer emits (a component above 255 does not fit
    `Version(u8, u8, u8)`), then `assert_current_version` -/
def decPeppiJ (bs : Bytes) : Res PeppiMeta :=
  match stripPrefix J_HEAD bs with
  | none => .err "json"
  | some r =>
    match num r with
    | some (a, 0x2c :: r) =>
      (match num r with
       | some (b, 0x2c :: r) =>
         (match num r with
          | some (c, 0x5d :: r) =>
            if 255 < a ∨ 255 < b ∨ 255 < c then .err "json" else
            (match decHash r with
             | none => .err "json"
             | some (h, r) =>
               match decQuirks r with
               | some (q, [0x7d]) => .ok ⟨decide (2 ≤ a), h, q⟩
               | _ => .err "json")
          | _ => .err "json")
       | _ => .err "json")
    | _ => .err "json"

theorem fromUTF8_strBytes (s : String) : String.fromUTF8? (ByteArray.mk (strBytes s).toArray) = some s := by
  have : ByteArray.mk (strBytes s).toArray = s.toByteArray := by simp [strBytes]
  rw [this, String.fromUTF8?, dif_pos s.isValidUTF8]
  rfl

theorem decHash_enc (h : Option String) (q : Option Bool) (rest : Bytes) :
    decHash (hashJ h ++ (quirksJ q ++ 0x7d :: rest)) = some (h, quirksJ q ++ 0x7d :: rest) := by
  cases h with
  | none => cases q <;> rfl      -- what follows starts with `}` or `,"q`, not with `,"s`
  | some s =>
    simp only [hashJ, List.append_assoc, decHash, stripPrefix_append]
    simp only [List.cons_append, List.nil_append, unescStr_esc_len, fromUTF8_strBytes]

theorem decQuirks_enc (q : Option Bool) (rest : Bytes) : decQuirks (quirksJ q ++ 0x7d :: rest) = some (q, 0x7d :: rest) := by
  cases q with
  | none => rfl
  | some b =>
    rw [quirksJ, List.append_assoc, decQuirks, stripPrefix_append]
    cases b <;> rfl

/-- **`peppi.json` round trip**: the text written for version `a.b.c`, hash `h` and quirks `q` reads back as those values;
    the version verdict is `2 ≤ a` -/
theorem decPeppiJ_encV (a b c : Nat) (ha : a ≤ 255) (hb : b ≤ 255) (hc : c ≤ 255) (h : Option String) (q : Option Bool) :
    decPeppiJ (encPeppiV a b c h q) = .ok ⟨decide (2 ≤ a), h, q⟩ := by
  have hcomma : isDecDigit 0x2c = false := by decide
  have hbr : isDecDigit 0x5d = false := by decide
  simp only [decPeppiJ, encPeppiV, stripPrefix_append, num_natDec _ _ (noDigit_cons _ _ hcomma), num_natDec _ _ (noDigit_cons _ _ hbr)]
  have hn : ¬ (255 < a ∨ 255 < b ∨ 255 < c) := by omega
  simp only [hn, ↓reduceIte, decHash_enc h q [], decQuirks_enc q []]

theorem decPeppiJ_enc (h : Option String) (q : Option Bool) : decPeppiJ (encPeppiJ h q) = .ok ⟨true, h, q⟩ :=
  decPeppiJ_encV 2 0 0 (by decide) (by decide) (by decide) h q

theorem decPeppiJ_noPanic (b : Bytes) (s : String) : decPeppiJ b ≠ .panic s := by
  unfold decPeppiJ
  repeat' split
  all_goals simp

/-- any codec with its `peppi.json` and `metadata.json` parts replaced by the JSON text models: two of the three round-trip
    laws are then theorems -/
def Codec.withJson {φ : Type} (C : Codec KVs φ) : Codec KVs φ :=
  { C.withJsonMeta with encPeppi := encPeppiJ, decPeppi := decPeppiJ, peppi_rt := decPeppiJ_enc }

/-- the byte-level round trip with both JSON entries the reader looks at as real JSON text -/
theorem slppRead_written_json2 {φ : Type} (C : Codec KVs φ) (T : TextOracle) (g : PGame KVs φ) (startBytes : Bytes) (endBytes : Option Bytes)
    (hstart : gameStart T startBytes = .ok g.start)
    (hend : endBytes.map gameEnd = g.fend.map Res.ok)
    (hgecko : ∀ c, g.gecko = some c → c.2 < 2 ^ 32)
    (hs : SizesOK C.withJson g startBytes endBytes) (skip : Bool) :
    slppRead C.withJson T skip (slppWrite C.withJson g startBytes endBytes) = .ok (if skip then { g with frames := none } else { g with frames := g.frames.map C.norm }) :=
  slppRead_written C.withJson T g startBytes endBytes hstart hend hgecko hs skip

#print axioms decPeppiJ_encV
#print axioms decPeppiJ_enc
#print axioms slppRead_written_json2
end Peppi
