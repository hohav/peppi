import Peppi.Tar
import Peppi.JsonText
import Peppi.Lemmas.PeppiRound
/-! `.slpp` at byte level: `tar` framing (proved, `Tar.lean`) around the entries of `io/peppi/ser.rs`, whose JSON and Arrow
    contents are produced and consumed by external crates.  Those crates enter as a `Codec`: functions with the one law each
    that the round trip needs (decode ∘ encode = id on what the writer produces; for the frames up to `norm`). -/
namespace Peppi

/-- entry names, as the bytes `set_path` puts into the header -/
def N_PEPPI : Bytes := [0x70, 0x65, 0x70, 0x70, 0x69, 0x2e, 0x6a, 0x73, 0x6f, 0x6e]                                  -- peppi.json
def N_META : Bytes := [0x6d, 0x65, 0x74, 0x61, 0x64, 0x61, 0x74, 0x61, 0x2e, 0x6a, 0x73, 0x6f, 0x6e]                 -- metadata.json
def N_STARTJ : Bytes := [0x73, 0x74, 0x61, 0x72, 0x74, 0x2e, 0x6a, 0x73, 0x6f, 0x6e]                                 -- start.json
def N_STARTR : Bytes := [0x73, 0x74, 0x61, 0x72, 0x74, 0x2e, 0x72, 0x61, 0x77]                                       -- start.raw
def N_ENDJ : Bytes := [0x65, 0x6e, 0x64, 0x2e, 0x6a, 0x73, 0x6f, 0x6e]                                               -- end.json
def N_ENDR : Bytes := [0x65, 0x6e, 0x64, 0x2e, 0x72, 0x61, 0x77]                                                     -- end.raw
def N_GECKO : Bytes := [0x67, 0x65, 0x63, 0x6b, 0x6f, 0x5f, 0x63, 0x6f, 0x64, 0x65, 0x73, 0x2e, 0x72, 0x61, 0x77]    -- gecko_codes.raw
def N_FRAMES : Bytes := [0x66, 0x72, 0x61, 0x6d, 0x65, 0x73, 0x2e, 0x61, 0x72, 0x72, 0x6f, 0x77]                     -- frames.arrow

/-- the external encoders / decoders and what is assumed of them -/
structure Codec (μ φ : Type) where
  encPeppi : Option String → Option Bool → Bytes          -- `serde_json::to_vec(&Peppi { version: CURRENT, slp_hash, quirks })`
  decPeppi : Bytes → Res PeppiMeta                          -- `serde_json::from_reader::<Peppi>` + `assert_current_version`
  encMeta : Option μ → Bytes                                -- `serde_json::to_vec(&game.metadata)`
  decMeta : Bytes → Res (Option μ)
  startJson : Start → Bytes                                 -- contents the reader never looks at
  endJson : End → Bytes
  encFrames : φ → Bytes                                     -- Arrow IPC file with the one struct array
  decFrames : Bytes → Bool × List (SItem φ)                -- magic check, then what the stream reader yields
  norm : φ → φ                                              -- what the IPC round trip does to a frame tree (an all-set validity comes back absent)
  peppi_rt : ∀ h q, decPeppi (encPeppi h q) = .ok ⟨true, h, q⟩
  meta_rt : ∀ m, decMeta (encMeta m) = .ok m
  frames_rt : ∀ f, decFrames (encFrames f) = (true, [.chunk (norm f)])

/-- `read`'s dispatch on the entry name -/
def classify {μ φ : Type} (C : Codec μ φ) (e : Bytes × Bytes) : PEntry μ φ :=
  if e.1 = N_PEPPI then .peppiJson (C.decPeppi e.2)
  else if e.1 = N_STARTR then .startRaw e.2
  else if e.1 = N_ENDR then .endRaw e.2
  else if e.1 = N_META then .metadataJson (C.decMeta e.2)
  else if e.1 = N_GECKO then .geckoRaw e.2
  else if e.1 = N_FRAMES then .framesArrow (C.decFrames e.2).1 (C.decFrames e.2).2
  else .other

/-- the (name, contents) list `write` appends.  (`peppiEntries`, PeppiFmt.lean, is this list as the check driver prints it:
    contents as canonical text, plus the version guard and the Arrow export's panic.) -/
def slppEntries {μ φ : Type} (C : Codec μ φ) (g : PGame μ φ) (startBytes : Bytes) (endBytes : Option Bytes) : List (Bytes × Bytes) :=
  [(N_PEPPI, C.encPeppi g.hash g.quirks), (N_META, C.encMeta g.metadata), (N_STARTJ, C.startJson g.start), (N_STARTR, startBytes)] ++
  ((match g.fend, endBytes with | some e, some eb => [(N_ENDJ, C.endJson e), (N_ENDR, eb)] | _, _ => []) ++
   ((match g.gecko with | some c => [(N_GECKO, leU32' c.2 ++ c.1)] | none => []) ++
    (match g.frames with | some f => [(N_FRAMES, C.encFrames f)] | none => [])))

/-- `io::peppi::write`, bytes -/
def slppWrite {μ φ : Type} (C : Codec μ φ) (g : PGame μ φ) (startBytes : Bytes) (endBytes : Option Bytes) : Bytes :=
  tarArchive (slppEntries C g startBytes endBytes)

/-- `io::peppi::read`, bytes -/
def slppRead {μ φ : Type} (C : Codec μ φ) (T : TextOracle) (skip : Bool) (bs : Bytes) : Res (PGame μ φ) :=
  match tarRead (bs.length / 512 + 2) bs with
  | .ok (es, trailerOk) => peppiRead T skip trailerOk (es.map (classify C))
  | .err e => .err e
  | .panic p => .panic p

section
variable {μ φ : Type} (C : Codec μ φ) (b : Bytes)
theorem classify_peppi : classify C (N_PEPPI, b) = .peppiJson (C.decPeppi b) := by simp +decide only [classify, ↓reduceIte]
theorem classify_meta : classify C (N_META, b) = .metadataJson (C.decMeta b) := by simp +decide only [classify, ↓reduceIte]
theorem classify_startj : classify C (N_STARTJ, b) = .other := by simp +decide only [classify, ↓reduceIte]
theorem classify_startr : classify C (N_STARTR, b) = .startRaw b := by simp +decide only [classify, ↓reduceIte]
theorem classify_endj : classify C (N_ENDJ, b) = .other := by simp +decide only [classify, ↓reduceIte]
theorem classify_endr : classify C (N_ENDR, b) = .endRaw b := by simp +decide only [classify, ↓reduceIte]
theorem classify_gecko : classify C (N_GECKO, b) = .geckoRaw b := by simp +decide only [classify, ↓reduceIte]
theorem classify_frames : classify C (N_FRAMES, b) = .framesArrow (C.decFrames b).1 (C.decFrames b).2 := by
  simp +decide only [classify, ↓reduceIte]
end

theorem classify_cases {μ φ : Type} (C : Codec μ φ) {n b : Bytes} {p : PEntry μ φ} (h : classify C (n, b) = p) :
    p = .peppiJson (C.decPeppi b) ∨ p = .startRaw b ∨ p = .endRaw b ∨ p = .metadataJson (C.decMeta b) ∨ p = .geckoRaw b ∨
    (n = N_FRAMES ∧ p = .framesArrow (C.decFrames b).1 (C.decFrames b).2) ∨ p = .other := by
  simp only [classify] at h
  by_cases h1 : n = N_PEPPI
  · exact .inl (h.symm.trans (if_pos h1))
  rw [if_neg h1] at h
  by_cases h2 : n = N_STARTR
  · exact .inr (.inl (h.symm.trans (if_pos h2)))
  rw [if_neg h2] at h
  by_cases h3 : n = N_ENDR
  · exact .inr (.inr (.inl (h.symm.trans (if_pos h3))))
  rw [if_neg h3] at h
  by_cases h4 : n = N_META
  · exact .inr (.inr (.inr (.inl (h.symm.trans (if_pos h4)))))
  rw [if_neg h4] at h
  by_cases h5 : n = N_GECKO
  · exact .inr (.inr (.inr (.inr (.inl (h.symm.trans (if_pos h5))))))
  rw [if_neg h5] at h
  by_cases h6 : n = N_FRAMES
  · exact .inr (.inr (.inr (.inr (.inr (.inl ⟨h6, h.symm.trans (if_pos h6)⟩)))))
  · exact .inr (.inr (.inr (.inr (.inr (.inr (h.symm.trans (if_neg h6)))))))

theorem classify_peppiJson {μ φ : Type} (C : Codec μ φ) {n b : Bytes} {r : Res PeppiMeta}
    (h : classify C (n, b) = .peppiJson r) : r = C.decPeppi b := by
  rcases classify_cases C h with hc | hc | hc | hc | hc | ⟨_, hc⟩ | hc <;> cases hc
  -- left: the first alternative, `.peppiJson (C.decPeppi b)`
  rfl

theorem classify_metadataJson {μ φ : Type} (C : Codec μ φ) {n b : Bytes} {r : Res (Option μ)}
    (h : classify C (n, b) = .metadataJson r) : r = C.decMeta b := by
  rcases classify_cases C h with hc | hc | hc | hc | hc | ⟨_, hc⟩ | hc <;> cases hc
  -- left: the fourth alternative, `.metadataJson (C.decMeta b)`
  rfl

theorem classify_frames_name {μ φ : Type} (C : Codec μ φ) {n b : Bytes} {m : Bool} {items : List (SItem φ)}
    (h : classify C (n, b) = .framesArrow m items) : n = N_FRAMES := by
  rcases classify_cases C h with hc | hc | hc | hc | hc | ⟨hn, hc⟩ | hc <;> cases hc
  -- left: the sixth alternative, the one with a name
  exact hn

theorem slppEntries_forall {μ φ : Type} (C : Codec μ φ) (g : PGame μ φ) (startBytes : Bytes) (endBytes : Option Bytes)
    (P : Bytes × Bytes → Prop)
    (peppi : P (N_PEPPI, C.encPeppi g.hash g.quirks)) (metadata : P (N_META, C.encMeta g.metadata))
    (startj : P (N_STARTJ, C.startJson g.start)) (startr : P (N_STARTR, startBytes))
    (endj : ∀ e, g.fend = some e → P (N_ENDJ, C.endJson e)) (endr : ∀ eb, endBytes = some eb → P (N_ENDR, eb))
    (gecko : ∀ c, g.gecko = some c → P (N_GECKO, leU32' c.2 ++ c.1))
    (frames : ∀ f, g.frames = some f → P (N_FRAMES, C.encFrames f)) :
    ∀ e ∈ slppEntries C g startBytes endBytes, P e := by
  intro e he
  simp only [slppEntries, List.mem_append, List.mem_cons, List.not_mem_nil, or_false] at he
  rcases he with (rfl | rfl | rfl | rfl) | he | he | he
  · exact peppi
  · exact metadata
  · exact startj
  · exact startr
  · split at he
    · simp only [List.mem_cons, List.not_mem_nil, or_false] at he
      rcases he with rfl | rfl
      · exact endj _ ‹_›
      · exact endr _ rfl
    · cases he
  · split at he
    · simp only [List.mem_singleton] at he; subst he; exact gecko _ ‹_›
    · cases he
  · split at he
    · simp only [List.mem_singleton] at he; subst he; exact frames _ ‹_›
    · cases he

theorem isSome_of_map_eq {α β γ : Type} {f : α → γ} {g : β → γ} {a : Option α} {b : Option β} (h : a.map f = b.map g) :
    a.isSome = b.isSome :=
  Option.isSome_map.symm.trans ((congrArg Option.isSome h).trans Option.isSome_map)

theorem classify_written {μ φ : Type} (C : Codec μ φ) (g : PGame μ φ) (startBytes : Bytes) (endBytes : Option Bytes)
    (hend : endBytes.isSome = g.fend.isSome) :
    (slppEntries C g startBytes endBytes).map (classify C) = writtenEntries { g with frames := g.frames.map C.norm } startBytes endBytes := by
  simp only [slppEntries, writtenEntries, List.map_append, List.map_cons, List.map_nil, classify_peppi, classify_meta, classify_startj,
    classify_startr, C.peppi_rt, C.meta_rt]
  congr 2
  · -- `hend`: the end block and its bytes are both there or both absent
    cases hg : g.fend with
    | none =>
      cases endBytes with
      | none => rfl
      | some eb => rw [hg] at hend; cases hend
    | some e =>
      cases endBytes with
      | none => rw [hg] at hend; cases hend
      | some eb => simp only [List.map_cons, List.map_nil, classify_endj, classify_endr, endEntries]
  congr 1
  · cases g.gecko
    · rfl
    · simp only [List.map_cons, List.map_nil, classify_gecko, geckoEntries]
  · cases g.frames
    · rfl
    · simp only [List.map_cons, List.map_nil, classify_frames, C.frames_rt, framesEntries, Option.map_some]

/-- every entry's contents fit the size field of the tar header (11 octal digits: below 8 GiB); that the names fit is
    `slppEntries_names` -/
def SizesOK {μ φ : Type} (C : Codec μ φ) (g : PGame μ φ) (startBytes : Bytes) (endBytes : Option Bytes) : Prop :=
  ∀ e ∈ slppEntries C g startBytes endBytes, e.2.length < 8 ^ 11

def NameOK (n : Bytes) : Prop := 0 < n.length ∧ n.length ≤ 100 ∧ ∀ b ∈ n, b ≠ 0
instance (n : Bytes) : Decidable (NameOK n) := by unfold NameOK; exact inferInstance

theorem slppEntries_names {μ φ : Type} (C : Codec μ φ) (g : PGame μ φ) (startBytes : Bytes) (endBytes : Option Bytes) :
    ∀ e ∈ slppEntries C g startBytes endBytes, NameOK e.1 :=
  slppEntries_forall C g startBytes endBytes (fun e => NameOK e.1)
    (peppi := (by decide : NameOK N_PEPPI)) (metadata := (by decide : NameOK N_META))
    (startj := (by decide : NameOK N_STARTJ)) (startr := (by decide : NameOK N_STARTR))
    (endj := fun _ _ => (by decide : NameOK N_ENDJ)) (endr := fun _ _ => (by decide : NameOK N_ENDR))
    (gecko := fun _ _ => (by decide : NameOK N_GECKO)) (frames := fun _ _ => (by decide : NameOK N_FRAMES))

theorem slppEntries_ok {μ φ : Type} (C : Codec μ φ) (g : PGame μ φ) (startBytes : Bytes) (endBytes : Option Bytes)
    (hs : SizesOK C g startBytes endBytes) : ∀ e ∈ slppEntries C g startBytes endBytes, EntryOK e := by
  intro e he
  obtain ⟨a, b, c⟩ := slppEntries_names C g startBytes endBytes e he
  exact ⟨⟨a, b⟩, c, hs e he⟩

/-- the fuel the readers give themselves (a block count) exceeds the number of members: each takes a header block at least -/
theorem tarArchive_fuel (es : List (Bytes × Bytes)) (hes : ∀ e ∈ es, EntryOK e) : es.length < (tarArchive es).length / 512 + 2 := by
  have := tarArchive_length_ge es fun e he => (hes e he).nameLen.2
  omega

/-- (stated for a variable `es`: unfolding `slppRead` on `slppWrite …` makes the kernel evaluate `tarRead` on the partly
    concrete archive) -/
theorem slppRead_tarArchive {μ φ : Type} (C : Codec μ φ) (T : TextOracle) (skip : Bool) (es : List (Bytes × Bytes))
    (hes : ∀ e ∈ es, EntryOK e) : slppRead C T skip (tarArchive es) = peppiRead T skip true (es.map (classify C)) := by
  unfold slppRead
  rw [tarRead_archive es hes _ (tarArchive_fuel es hes)]

/-- the three `written` theorems (`slppRead_written`, `slppReadL_written`, `slppReadL_cut`) end here -/
theorem peppiRead_slppEntries {μ φ : Type} (C : Codec μ φ) (T : TextOracle) (g : PGame μ φ) (startBytes : Bytes) (endBytes : Option Bytes)
    (hstart : gameStart T startBytes = .ok g.start)
    (hend : endBytes.map gameEnd = g.fend.map Res.ok)
    (hgecko : ∀ c, g.gecko = some c → c.2 < 2 ^ 32) (skip : Bool) :
    peppiRead T skip true ((slppEntries C g startBytes endBytes).map (classify C)) =
      .ok (if skip then { g with frames := none } else { g with frames := g.frames.map C.norm }) := by
  rw [classify_written C g startBytes endBytes (isSome_of_map_eq hend),
    peppiRead_written_any T { g with frames := g.frames.map C.norm } startBytes endBytes skip true hstart hend hgecko (fun _ => rfl)]
  cases skip <;> rfl

/-- **`.slpp` round trip, byte level** (C02 / C18; C10 with `skip`): reading the bytes `write` produced returns the game —
    all of it, or with the empty frame set under skip-frames -/
theorem slppRead_written {μ φ : Type} (C : Codec μ φ) (T : TextOracle) (g : PGame μ φ) (startBytes : Bytes) (endBytes : Option Bytes)
    (hstart : gameStart T startBytes = .ok g.start)
    (hend : endBytes.map gameEnd = g.fend.map Res.ok)
    (hgecko : ∀ c, g.gecko = some c → c.2 < 2 ^ 32)
    (hs : SizesOK C g startBytes endBytes) (skip : Bool) :
    slppRead C T skip (slppWrite C g startBytes endBytes) =
      .ok (if skip then { g with frames := none } else { g with frames := g.frames.map C.norm }) :=
  (slppRead_tarArchive C T skip _ (slppEntries_ok C g startBytes endBytes hs)).trans
    (peppiRead_slppEntries C T g startBytes endBytes hstart hend hgecko skip)

/-- **C18**: the file signature is at offset 0 of what `write` produces, whatever the game -/
theorem slppWrite_signature {μ φ : Type} (C : Codec μ φ) (g : PGame μ φ) (startBytes : Bytes) (endBytes : Option Bytes) :
    (slppWrite C g startBytes endBytes).take 10 = N_PEPPI :=
  tarArchive_starts N_PEPPI _ _

#print axioms slppRead_written
#print axioms slppWrite_signature

/-- characters as `1, <4 bytes>` each, terminated by `0` (for `toyCodec`) -/
def encChars : List Char → Bytes
  | [] => [0]
  | c :: cs => 1 :: (toBE 4 c.toNat ++ encChars cs)

def decChars : Nat → Bytes → List Char × Bytes
  | 0, bs => ([], bs)
  | n+1, bs =>
    match bs with
    | 1 :: rest => let r := decChars n (rest.drop 4); (Char.ofNat (fromBE (rest.take 4)) :: r.1, r.2)
    | _ :: rest => ([], rest)
    | [] => ([], [])

theorem encChars_length (cs : List Char) : (encChars cs).length = 5 * cs.length + 1 := by
  induction cs with
  | nil => rfl
  | cons c t ih => simp [encChars, toBE_length, ih]; omega

theorem decChars_enc (cs : List Char) (rest : Bytes) (fuel : Nat) (hf : cs.length < fuel) :
    decChars fuel (encChars cs ++ rest) = (cs, rest) := by
  induction fuel generalizing cs with
  | zero => exact absurd hf (Nat.not_lt_zero _)
  | succ f ih =>
    cases cs with
    | nil => rfl
    | cons c t =>
      have hl : (toBE 4 c.toNat).length = 4 := toBE_length _ _
      have hc : c.toNat < 256 ^ 4 := c.val.toNat_lt
      simp only [encChars, List.cons_append, List.append_assoc, decChars, List.take_left' hl, List.drop_left' hl,
        fromBE_toBE 4 c.toNat hc, Char.ofNat_toNat, ih t (Nat.lt_of_succ_lt_succ hf)]

def encOptStr : Option String → Bytes
  | none => [0]
  | some s => 1 :: encChars s.toList
def encOptBool : Option Bool → Bytes
  | none => [0] | some false => [1] | some true => [2]
def decOptBool (bs : Bytes) : Option Bool := if bs.headD 0 = 0 then none else if bs.headD 0 = 1 then some false else some true

theorem decOptBool_enc (q : Option Bool) : decOptBool (encOptBool q) = q := by
  cases q with
  | none => rfl
  | some b => cases b <;> rfl

def toyDecPeppi (bs : Bytes) : Res PeppiMeta :=
  match bs with
  | 0 :: rest => .ok ⟨true, none, decOptBool rest⟩
  | 1 :: rest => let r := decChars rest.length rest; .ok ⟨true, some (String.ofList r.1), decOptBool r.2⟩
  | _ => .err "json"

/-- the three laws of `Codec` are jointly satisfiable (at `μ := φ := Bytes`) -/
def toyCodec : Codec Bytes Bytes where
  encPeppi h q := encOptStr h ++ encOptBool q
  decPeppi := toyDecPeppi
  encMeta m := match m with | none => [0] | some b => 1 :: b
  decMeta bs := match bs with | 0 :: _ => .ok none | 1 :: b => .ok (some b) | _ => .err "json"
  startJson _ := []
  endJson _ := []
  encFrames f := f
  decFrames bs := (true, [.chunk bs])
  norm f := f
  peppi_rt h q := by
    cases h with
    | none => simp [encOptStr, toyDecPeppi, decOptBool_enc]
    | some s =>
      simp only [encOptStr, List.cons_append, toyDecPeppi]
      rw [decChars_enc s.toList (encOptBool q) _ (by simp [encChars_length]; omega)]
      simp [decOptBool_enc, String.ofList_toList]
  meta_rt m := by cases m <;> rfl
  frames_rt f := rfl

/-- any codec with its metadata part replaced by the JSON text model (`JsonText.lean`): the `meta_rt` law is then a theorem
    (`parseMeta_json`), not an assumption -/
def Codec.withJsonMeta {φ : Type} (C : Codec KVs φ) : Codec KVs φ :=
  { C with encMeta := jsonMeta, decMeta := parseMeta, meta_rt := parseMeta_json }

/-- the byte-level round trip with the metadata entry as real JSON text -/
theorem slppRead_written_json {φ : Type} (C : Codec KVs φ) (T : TextOracle) (g : PGame KVs φ) (startBytes : Bytes) (endBytes : Option Bytes)
    (hstart : gameStart T startBytes = .ok g.start)
    (hend : endBytes.map gameEnd = g.fend.map Res.ok)
    (hgecko : ∀ c, g.gecko = some c → c.2 < 2 ^ 32)
    (hs : SizesOK C.withJsonMeta g startBytes endBytes) (skip : Bool) :
    slppRead C.withJsonMeta T skip (slppWrite C.withJsonMeta g startBytes endBytes) =
      .ok (if skip then { g with frames := none } else { g with frames := g.frames.map C.norm }) :=
  slppRead_written C.withJsonMeta T g startBytes endBytes hstart hend hgecko hs skip
end Peppi
