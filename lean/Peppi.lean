import Peppi.Arrow
import Peppi.Basic
import Peppi.Bytes
import Peppi.C03
import Peppi.Cols
import Peppi.Extracted
import Peppi.Hash
import Peppi.Json
import Peppi.Layout
import Peppi.Lemmas.ArrowFrame
import Peppi.Lemmas.ArrowStream
import Peppi.Lemmas.Body
import Peppi.Lemmas.ByteLayer
import Peppi.Lemmas.C05
import Peppi.Lemmas.C05All
import Peppi.Lemmas.C05Long
import Peppi.Lemmas.C08
import Peppi.Lemmas.C09
import Peppi.Lemmas.C09P
import Peppi.Lemmas.C12
import Peppi.Lemmas.C13
import Peppi.Lemmas.C17
import Peppi.Lemmas.C19
import Peppi.Lemmas.CharRun
import Peppi.Lemmas.Events
import Peppi.Lemmas.Flat
import Peppi.Lemmas.FrameStep
import Peppi.Lemmas.FrameStepB
import Peppi.Lemmas.FrameStepC
import Peppi.Lemmas.Fuel
import Peppi.Lemmas.Gecko
import Peppi.Lemmas.GeckoWrite
import Peppi.Lemmas.History
import Peppi.Lemmas.NoPanic
import Peppi.Lemmas.PeppiRead
import Peppi.Lemmas.PeppiRound
import Peppi.Lemmas.Perm
import Peppi.Lemmas.PortMap
import Peppi.Lemmas.Positional
import Peppi.Lemmas.Prefix
import Peppi.Lemmas.Slots
import Peppi.Lemmas.Transpose
import Peppi.Lemmas.Trunc
import Peppi.Lemmas.UbjLocal
import Peppi.Lemmas.WriteAny
import Peppi.Lemmas.WriteCount
import Peppi.Lemmas.WriteFrame
import Peppi.Lemmas.WriteSizes
import Peppi.Lemmas.WriteSlots
import Peppi.Local
import Peppi.PeppiFmt
import Peppi.Premises
import Peppi.Read
import Peppi.Res
import Peppi.Rollbacks
import Peppi.RollbacksProof
import Peppi.RollbacksUnique
import Peppi.RollbacksReverse
import Peppi.ShiftJis
import Peppi.ShiftJisMore
import Peppi.Spec
import Peppi.Start
import Peppi.Stream
import Peppi.Ubjson
import Peppi.UbjsonProof
import Peppi.UbjsonRound
import Peppi.Utf8
import Peppi.Version
import Peppi.VersionProof
import Peppi.VersionMore
import Peppi.VersionOrder
import Peppi.VersionText
import Peppi.Write
import Peppi.Lemmas.Tail
import Peppi.Lemmas.GenFile
import Peppi.Lemmas.Tables
import Peppi.Lemmas.Canon
import Peppi.Lemmas.Skip
import Peppi.Lemmas.GenInst
import Peppi.Lemmas.GeckoU
import Peppi.Lemmas.GenCor
import Peppi.Lemmas.Longer
import Peppi.Lemmas.Handle
import Peppi.Lemmas.Unified
import Peppi.Lemmas.Unified2
import Peppi.Lemmas.Lengths
import Peppi.Lemmas.C12Cols
import Peppi.Lemmas.C12Start
import Peppi.Lemmas.C13Progress
import Peppi.Lemmas.Wrapped
import Peppi.Lemmas.RawLength
import Peppi.Lemmas.GenExample
import Peppi.Lemmas.Example
import Peppi.Lemmas.WpAttr
import Peppi.Lemmas.Wp
import Peppi.Lemmas.ColsExt
import Peppi.Lemmas.HandleSpec
